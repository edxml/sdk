/-
The reasoning pass of concept mining (`EdxmlModel/Miner/Search.lean`): the invariant of the loop, induction
over the traces `run` accepts, and the two checkers of the correspondence as refinements of `run`.
-/
import EdxmlModel.Miner.Search
import Mathlib.Algebra.Order.Ring.Rat
import Mathlib.Data.List.Perm.Subperm
namespace EdxmlProps.Search
open Edxml.Miner

/-- a confidence or a taint: a number of [0,1] -/
def U (x : Rat) : Prop := 0 ≤ x ∧ x ≤ 1

/-- what a pass assumes of the nodes it reads; `C20.noisyOr_unit`, `C20.tenth_unit` and
`C20.taintHistory_unit` are why the SDK's node confidences and taints meet it -/
structure GraphOk (g : SGraph) : Prop where
  conf : ∀ k, U (g.conf k)
  taint : ∀ k, U (g.taint k)

def EdgesOk (es : List SEdge) : Prop := ∀ e ∈ es, U e.conf

/-- ... and of the inference confidences on the edges an execution considers -/
def TraceOk (tr : Trace) : Prop := ∀ p ∈ tr, EdgesOk p.2

/-- Invariant of the `while` loop of `_reason_from`: `seedVisited` and `seedOne` hold of `SState.init` and
visited nodes keep their confidence; `unit` is `dijkstra_bounds`, `aboveMin` the test in `relax`;
`disjoint`: only unvisited nodes get touched, and `visit` untouches the node it marks. -/
structure Inv (min : Rat) (seed : Nat) (s : SState) : Prop where
  seedVisited : seed ∈ s.visited
  seedOne : s.sc seed = some 1
  unit : ∀ k c, s.sc k = some c → U c
  aboveMin : ∀ k c, k ≠ seed → s.sc k = some c → min < c
  disjoint : ∀ k ∈ s.touched, k ∉ s.visited

/-! ### the unit interval -/

theorem U.zero : U 0 := ⟨le_rfl, zero_le_one⟩

theorem U.one : U 1 := ⟨zero_le_one, le_rfl⟩

theorem U.mul {a b : Rat} (ha : U a) (hb : U b) : U (a * b) :=
  ⟨mul_nonneg ha.1 hb.1, mul_le_one₀ ha.2 hb.1 hb.2⟩

theorem U.compl {a : Rat} (ha : U a) : U (1 - a) := ⟨sub_nonneg.2 ha.2, sub_le_self 1 ha.1⟩

theorem U.max {a b : Rat} (ha : U a) (hb : U b) : U (max a b) := ⟨le_max_of_le_left ha.1, max_le ha.2 hb.2⟩

theorem U.mul_le {a b : Rat} (ha : 0 ≤ a) (hb : U b) : a * b ≤ a := mul_le_of_le_one_right ha hb.2

theorem dijkstra_bounds {a e t c : Rat} (ha : U a) (he : U e) (ht : U t) (hc : U c) :
    U (dijkstra a e t c) ∧ dijkstra a e t c ≤ a :=
  have h1 := ha.mul he
  have h2 := h1.mul ht.compl
  ⟨h2.mul hc, (U.mul_le h2.1 hc).trans ((U.mul_le h1.1 ht.compl).trans (U.mul_le ha.1 he))⟩

/-! ### the invariant -/

theorem inv_init (min : Rat) (seed : Nat) : Inv min seed (SState.init seed) where
  seedVisited := List.mem_singleton_self seed
  seedOne := if_pos rfl
  unit k c h := by
    obtain ⟨_, h1⟩ := Option.ite_none_right_eq_some.mp h
    cases h1
    exact U.one
  aboveMin k c hk h := by cases (if_neg hk).symm.trans h
  disjoint k hk := by cases hk

variable {g : SGraph} {min b : Rat} {md seed src n : Nat} {s s' : SState} {e : SEdge} {es : List SEdge}

theorem scD_unit (h : Inv min seed s) (n : Nat) : U (s.scD n) := by
  unfold SState.scD
  cases hn : s.sc n with
  | none => exact U.zero
  | some c => exact h.unit n c hn

@[elab_as_elim]
theorem relax_cases {P : SState → Prop} (same : P s)
    (better : ∀ c, c = dijkstra (s.scD src) e.conf (g.taint e.tgt) (g.conf e.tgt) → e.tgt ∉ s.visited →
      min < c → s.scD e.tgt < c →
      P { s with sc := fun k => if k = e.tgt then some c else s.sc k,
                 depth := fun k => if k = e.tgt then s.depth src + 1 else s.depth k,
                 touched := if s.touched.contains e.tgt then s.touched else e.tgt :: s.touched }) :
    P (relax g min src s e) := by
  fun_cases relax g min src s e with
  | case2 hv c hc => exact better _ rfl (by simpa using hv) hc.1 hc.2
  | _ => exact same

theorem relax_inv (hg : GraphOk g) (he : U e.conf) (h : Inv min seed s) : Inv min seed (relax g min src s e) := by
  refine relax_cases h fun c hc hv hmin _ => ?_
  have hb : U c := hc ▸ (dijkstra_bounds (scD_unit h src) he (hg.taint e.tgt) (hg.conf e.tgt)).1
  refine ⟨h.seedVisited, (if_neg fun h' : seed = e.tgt => hv (h' ▸ h.seedVisited)).trans h.seedOne,
    fun k c' hk => ?_, fun k c' hks hk => ?_, fun k hk => ?_⟩ <;> simp only at hk <;> split at hk
  · cases hk; exact hb
  · exact h.unit k c' hk
  · cases hk; exact hmin
  · exact h.aboveMin k c' hks hk
  · exact h.disjoint k hk
  · rcases List.mem_cons.mp hk with rfl | hk
    · exact hv
    · exact h.disjoint k hk

/-- what makes the processed confidences decrease: while the edges of `src` are relaxed nothing touched
exceeds `b`, since `dijkstra` does not exceed the confidence of `src` -/
def Below (b : Rat) (src : Nat) (s : SState) : Prop := s.scD src ≤ b ∧ ∀ m ∈ s.touched, s.scD m ≤ b

theorem relax_below (hg : GraphOk g) (he : U e.conf) (h : Inv min seed s) (hb : Below b src s) :
    Below b src (relax g min src s e) := by
  refine relax_cases hb fun c hc _ _ _ => ?_
  have hcb : c ≤ b := hc ▸ (dijkstra_bounds (scD_unit h src) he (hg.taint e.tgt) (hg.conf e.tgt)).2.trans hb.1
  have key : ∀ m, (m ≠ e.tgt → s.scD m ≤ b) → (if m = e.tgt then some c else s.sc m).getD 0 ≤ b := by
    intro m hm
    split
    · exact hcb
    · exact hm ‹_›
  refine ⟨key src fun _ => hb.1, fun m hm => key m fun hne => hb.2 m ?_⟩
  split at hm
  · exact hm
  · exact (List.mem_cons.mp hm).resolve_left hne

theorem foldl_relax_frame (g : SGraph) (min : Rat) (src : Nat) (es : List SEdge) (s : SState) :
    (es.foldl (relax g min src) s).visited = s.visited ∧
      ∀ k ∈ s.visited, (es.foldl (relax g min src) s).sc k = s.sc k :=
  List.foldlRecOn (motive := fun s' : SState => s'.visited = s.visited ∧ ∀ k ∈ s.visited, s'.sc k = s.sc k)
    es _ ⟨rfl, fun _ _ => rfl⟩ fun _ hs e _ =>
    relax_cases hs fun _ _ hv _ _ =>
      ⟨hs.1, fun k hk => (if_neg fun h : k = e.tgt => hv (hs.1 ▸ h ▸ hk)).trans (hs.2 k hk)⟩

theorem mem_visit_visited {k : Nat} : k ∈ (visit g min s n es).visited ↔ k = n ∨ k ∈ s.visited := by
  rw [← (foldl_relax_frame g min n es s).1]
  unfold visit
  simp only
  split <;> simp_all

theorem visit_sc_of_visited {k : Nat} (hk : k ∈ s.visited) : (visit g min s n es).sc k = s.sc k :=
  (foldl_relax_frame g min n es s).2 k hk

theorem visit_inv (hg : GraphOk g) (he : EdgesOk es) (h : Inv min seed s) : Inv min seed (visit g min s n es) := by
  have h' : Inv min seed (es.foldl (relax g min n) s) :=
    List.foldlRecOn es _ h fun _ hs e hm => relax_inv hg (he e hm) hs
  refine ⟨mem_visit_visited.mpr (Or.inr h.seedVisited), h'.seedOne, h'.unit, h'.aboveMin, fun k hk hv => ?_⟩
  obtain ⟨hk, hkn⟩ := List.mem_filter.mp hk
  rcases mem_visit_visited.mp hv with rfl | hv
  · simp at hkn
  · exact h'.disjoint k hk ((foldl_relax_frame g min n es s).1 ▸ hv)

theorem visit_below (hg : GraphOk g) (he : EdgesOk es) (h : Inv min seed s) (hb : Below b n s) :
    ∀ m ∈ (visit g min s n es).touched, (visit g min s n es).scD m ≤ b := by
  have h' : Inv min seed (es.foldl (relax g min n) s) ∧ Below b n (es.foldl (relax g min n) s) :=
    List.foldlRecOn (motive := fun s' => Inv min seed s' ∧ Below b n s') es _ ⟨h, hb⟩ fun _ hs e hm =>
      ⟨relax_inv hg (he e hm) hs.1, relax_below hg (he e hm) hs.1 hs.2⟩
  exact fun m hm => h'.2.2 m (List.mem_filter.mp hm).1

theorem isMax_iff : isMax s n = true ↔ n ∈ s.touched ∧ ∀ m ∈ s.touched, s.scD m ≤ s.scD n := by
  simp [isMax]

/-! ### accepted traces -/

variable {tr : Trace} {cs : List Rat}

/-- the final state `s'` stays fixed along the trace, so `P` may speak of it -/
@[elab_as_elim]
theorem steps_induction (hg : GraphOk g) {P : SState → Trace → List Rat → Prop}
    (nil : Inv min seed s' → P s' [] [])
    (cons : ∀ {s n es rest cs}, Inv min seed s → EdgesOk es → isMax s n = true →
      P (visit g min s n es) rest cs → P s ((n, es) :: rest) (s.scD n :: cs))
    {tr s cs} (ht : TraceOk tr) (h : Inv min seed s) (hs : steps g min md s tr = some (s', cs)) : P s tr cs := by
  fun_induction steps g min md s tr generalizing cs with
  | case1 => cases hs; exact nil h
  | case3 s n es rest hgd s2 cs2 hrec ih =>
    cases hs
    obtain ⟨he, ht'⟩ := List.forall_mem_cons.mp ht
    exact cons h he (Bool.and_eq_true_iff.mp hgd).1 (ih ht' (visit_inv hg he h) hrec)
  | _ => cases hs

section
variable (hg : GraphOk g) (ht : TraceOk tr) (h : Inv min seed s) (hs : steps g min md s tr = some (s', cs))
include hg ht h hs

theorem steps_inv : Inv min seed s' :=
  steps_induction hg id (fun _ _ _ ih => ih) ht h hs

theorem steps_length : cs.length = tr.length :=
  steps_induction hg (fun _ => rfl) (fun _ _ _ ih => congrArg (· + 1) ih) ht h hs

theorem steps_frame : ∀ k ∈ s.visited, s'.sc k = s.sc k :=
  steps_induction hg (fun _ _ _ => rfl)
    (fun _ _ _ ih k hk => (ih k (mem_visit_visited.mpr (Or.inr hk))).trans (visit_sc_of_visited hk)) ht h hs

theorem steps_nodup : (tr.map Prod.fst).Nodup ∧ ∀ n ∈ tr.map Prod.fst, n ∉ s.visited := by
  refine steps_induction hg (fun _ => ⟨List.nodup_nil, fun _ hn => nomatch hn⟩) (fun hi _ hm ih => ?_) ht h hs
  -- the processed node was touched, hence not visited, and is visited from then on
  refine ⟨List.nodup_cons.mpr ⟨fun hn => ih.2 _ hn (mem_visit_visited.mpr (Or.inl rfl)), ih.1⟩, fun m hm' hv => ?_⟩
  rcases List.mem_cons.mp hm' with rfl | hm'
  · exact hi.disjoint _ (isMax_iff.mp hm).1 hv
  · exact ih.2 m hm' (mem_visit_visited.mpr (Or.inr hv))

/-- once a most confident node is processed, its confidence bounds all touched ones (`visit_below`) -/
theorem steps_sorted : ∀ b, (∀ m ∈ s.touched, s.scD m ≤ b) → (b :: cs).IsChain (· ≥ ·) :=
  steps_induction hg (fun _ _ _ => .singleton _)
    (fun hi he hm ih _ hb =>
      have hm := isMax_iff.mp hm
      .cons_cons (hb _ hm.1) (ih _ (visit_below hg he hi ⟨le_rfl, hm.2⟩))) ht h hs

end

/-- the first iteration is not a case of `steps`: the seed it processes is visited, not touched -/
theorem run_spec (hg : GraphOk g) (ht : TraceOk tr) (hr : run g min md seed tr = some (s', cs)) :
    Inv min seed s' ∧ (tr.map Prod.fst).Nodup ∧ cs.Pairwise (· ≥ ·) ∧ cs.length = tr.length := by
  revert hr
  fun_cases run g min md seed tr with
  | case2 =>  -- no iteration: the seed fails the guard
    rintro ⟨⟩
    exact ⟨inv_init min seed, List.nodup_nil, List.Pairwise.nil, rfl⟩
  | case3 n es rest hc _ cs' hs =>  -- the first iteration, then `steps`
    rintro ⟨⟩
    obtain ⟨rfl, _⟩ := hc
    obtain ⟨he, ht'⟩ := List.forall_mem_cons.mp ht
    have hv := visit_inv (n := n) hg he (inv_init min n)
    have hnd := steps_nodup hg ht' hv hs
    exact ⟨steps_inv hg ht' hv hs,
      List.nodup_cons.mpr ⟨fun hm => hnd.2 n hm (mem_visit_visited.mpr (Or.inl rfl)), hnd.1⟩,
      List.isChain_iff_pairwise.mp (steps_sorted hg ht' hv hs 1 fun m _ => (scD_unit hv m).2),
      congrArg (· + 1) (steps_length hg ht' hv hs)⟩
  | _ => rintro ⟨⟩

/-! ### what the tolerant checker accepts with no slack, the exact algorithm accepts -/

/-- without slack the bracket `c - eps ≤ cf ≤ c + eps` pins the annotation to the exact product, and
the condition for leaving an edge unused is the negation of the condition for using it -/
theorem relaxC_zero {er : SEdge × Option Rat} (h : relaxC g min 0 src s er = some s') :
    s' = relax g min src s er.1 := by
  revert h
  fun_cases relaxC g min 0 src s er with
  | case1 e hv => rintro ⟨⟩; exact (if_pos hv).symm  -- target visited, no annotation: the state stays
  | case3 e hv c cf _ hc =>  -- annotation `cf` (the SDK used the edge) passes the four tests
    rintro ⟨⟩
    simp only [sub_zero, add_zero] at hc
    obtain rfl : cf = c := le_antisymm hc.2.1 hc.1
    exact ((if_neg hv).trans (if_pos hc.2.2)).symm
  | case5 e hv c _ hc =>  -- no annotation (the SDK left the edge) and the edge may be left
    rintro ⟨⟩
    simp only [add_zero, ← not_lt, ← not_and_or] at hc
    exact ((if_neg hv).trans (if_neg hc)).symm
  | _ => rintro ⟨⟩  -- the checker rejects

theorem foldC_zero (es : List (SEdge × Option Rat)) (s : SState) (h : foldC g min 0 src s es = some s') :
    s' = (es.map (·.1)).foldl (relax g min src) s := by
  fun_induction foldC g min 0 src s es with
  | case1 => exact (Option.some.inj h).symm
  | case2 s er rest s1 h1 ih => rw [ih h, relaxC_zero h1]; rfl
  | case3 => cases h

theorem visitC_zero {es : List (SEdge × Option Rat)} (h : visitC g min 0 s n es = some s') :
    s' = visit g min s n (es.map (·.1)) := by
  unfold visitC at h
  split at h
  · rename_i s1 h1
    rw [foldC_zero es s h1] at h
    exact (Option.some.inj h).symm
  · cases h

theorem stepsC_zero (tr : ATrace) (s : SState) (h : stepsC g min 0 md s tr = some s') :
    ∃ cs, steps g min md s tr.erase = some (s', cs) := by
  fun_induction stepsC g min 0 md s tr with
  | case1 s hc => cases h; exact ⟨[], if_pos hc⟩
  | case3 s n es rest hg s1 hv ih =>
    obtain ⟨cs, hcs⟩ := ih h
    refine ⟨s.scD n :: cs, ?_⟩
    rw [ATrace.erase, List.map_cons, steps, if_pos hg, ← visitC_zero hv]
    exact hcs ▸ rfl
  | _ => cases h

/-! ### the checker with the scope filter refines the checker without it -/

variable {eps : Rat} {q' : Equivs}

theorem stepsC2_sound (tr : FTrace) (s : SState) (q : Equivs) (h : stepsC2 g min eps md s q tr = some (s', q')) :
    stepsC g min eps md s tr.proj = some s' := by
  fun_induction stepsC2 g min eps md s q tr with
  | case1 s q =>
    obtain ⟨a, ha, heq⟩ := Option.map_eq_some_iff.mp h
    cases heq
    exact ha
  | case2 s q n es rest hc s1 hv ih =>
    rw [FTrace.proj, List.map_cons, stepsC, if_pos (Bool.and_eq_true_iff.mp hc).1, hv]
    exact ih h
  | _ => cases h

end EdxmlProps.Search
