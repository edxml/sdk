/-
`str.split(c)` on character lists: `splitOnChar` is core's `List.splitOn` written out by structural
recursion (`splitOnChar_eq`), so the two inverse laws are core's; `split_spec` is the pair packaged for
recognisers that split at a separator.
-/
import EdxmlModel.Ontology.Cmp
namespace Edxml.Ont

theorem splitOnChar_eq (c : Char) : ∀ cs, splitOnChar c cs = cs.splitOn c
  | [] => rfl
  | x :: xs => by
    rw [splitOnChar, splitOnChar_eq c xs, List.splitOn_cons_eq_if_modifyHead]
    cases h : xs.splitOn c with
    | nil => exact absurd h (List.splitOn_ne_nil c xs)
    | cons _ _ => rfl

theorem intercalate_splitOnChar (c : Char) (cs : List Char) : [c].intercalate (splitOnChar c cs) = cs := by
  rw [splitOnChar_eq]; exact List.intercalate_splitOn c

theorem splitOnChar_intercalate (c : Char) (parts : List (List Char)) (hne : parts ≠ [])
    (hsep : ∀ p ∈ parts, ∀ x ∈ p, x ≠ c) : splitOnChar c ([c].intercalate parts) = parts := by
  rw [splitOnChar_eq]; exact List.splitOn_intercalate c (fun p hp hc => hsep p hp c hc rfl) hne

theorem split_spec (c : Char) (P : List (List Char) → Prop) (cs : List Char) (hne : ∀ parts, P parts → parts ≠ [])
    (hsep : ∀ parts, P parts → ∀ p ∈ parts, ∀ x ∈ p, x ≠ c) :
    P (splitOnChar c cs) ↔ ∃ parts, P parts ∧ cs = [c].intercalate parts := by
  constructor
  · intro h; exact ⟨_, h, (intercalate_splitOnChar c cs).symm⟩
  · rintro ⟨parts, hp, rfl⟩
    rw [splitOnChar_intercalate c parts (hne parts hp) (hsep parts hp)]; exact hp

end Edxml.Ont
