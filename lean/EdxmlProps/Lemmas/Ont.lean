/-
The versioned comparison scheme: `cmpGen` by version order, the nested comparisons as one list of
verdicts (`sharedVerdicts`, which is also what `subFold` folds over), and every accumulation step as
one `Flags.ap`, so that `simp` turns the flags of a kind into conjunctions.
-/
import EdxmlModel.Ontology.OntCmp
import EdxmlProps.Lemmas.Keyed
import EdxmlProps.Lemmas.FilterMap
namespace Edxml.Ont

theorem Cmp.flip_flip (c : Cmp) : c.flip.flip = c := by cases c <;> rfl

/-! ### the skeleton, by version order -/

section cmpGen
variable {α : Sort u} (flags : α → α → Nat → Nat → Flags) (a b : α) (va vb : Nat)

theorem cmpGen_of_lt (h : va < vb) : cmpGen va vb flags a b =
    if (flags a b va vb).valid = true ∧ (flags a b va vb).raised = false then .lt else .incompat := by
  cases hr : (flags a b va vb).raised <;> cases hv : (flags a b va vb).valid <;>
    simp [cmpGen, h, Nat.ne_of_gt h, hr, hv]

theorem cmpGen_of_gt (h : vb < va) : cmpGen va vb flags a b =
    if (flags b a vb va).valid = true ∧ (flags b a vb va).raised = false then .gt else .incompat := by
  cases hr : (flags b a vb va).raised <;> cases hv : (flags b a vb va).valid <;>
    simp [cmpGen, Nat.lt_asymm h, Nat.ne_of_lt h, hr, hv]

theorem cmpGen_of_eq (v : Nat) : cmpGen v v flags a b =
    if (flags b a v v).equal = true ∧ (flags b a v v).raised = false then .eq else .incompat := by
  cases hr : (flags b a v v).raised <;> cases hv : (flags b a v v).equal <;> simp [cmpGen, hr, hv]

theorem cmpGen_eq_iff : cmpGen va vb flags a b = .eq ↔
    va = vb ∧ (flags b a vb va).equal = true ∧ (flags b a vb va).raised = false := by
  rcases Nat.lt_trichotomy va vb with h | rfl | h
  · rw [cmpGen_of_lt _ _ _ _ _ h]; split <;> simp [Nat.ne_of_lt h]
  · rw [cmpGen_of_eq]; split <;> simp_all
  · rw [cmpGen_of_gt _ _ _ _ _ h]; split <;> simp [Nat.ne_of_gt h]

theorem cmpGen_lt_iff : cmpGen va vb flags a b = .lt ↔
    va < vb ∧ (flags a b va vb).valid = true ∧ (flags a b va vb).raised = false := by
  rcases Nat.lt_trichotomy va vb with h | rfl | h
  · rw [cmpGen_of_lt _ _ _ _ _ h]; split <;> simp_all
  · rw [cmpGen_of_eq]; split <;> simp
  · rw [cmpGen_of_gt _ _ _ _ _ h]; split <;> simp [Nat.lt_asymm h]

theorem cmpGen_lt_or_incompat (h : va < vb) : cmpGen va vb flags a b = .lt ∨ cmpGen va vb flags a b = .incompat := by
  rw [cmpGen_of_lt _ _ _ _ _ h]; split <;> simp

end cmpGen

/-! ### lists with unique keys -/

section keyed
variable {α : Type} {key : α → String}

theorem findBy_eq_find? (n : String) : ∀ l : List α, findBy key n l = l.find? (key · == n)
  | [] => rfl
  | a :: r => by rw [findBy, List.find?_cons, findBy_eq_find? n r]; cases key a == n <;> rfl

theorem findBy_some {n : String} {l : List α} {o : α} (h : findBy key n l = some o) : o ∈ l ∧ key o = n :=
  find?_key_some (findBy_eq_find? n l ▸ h)

theorem findBy_of_mem {l : List α} {o : α} (hn : (l.map key).Nodup) (h : o ∈ l) :
    findBy key (key o) l = some o :=
  (findBy_eq_find? _ l).trans (find?_key_of_mem hn h)

theorem keysSubset_iff {a b : List String} : keysSubset a b = true ↔ a ⊆ b := by
  simp [keysSubset, List.subset_def]

theorem keysEq_iff {a b : List String} : keysEq a b = true ↔ a ⊆ b ∧ b ⊆ a := by
  simp [keysEq, keysSubset_iff]

theorem keysEq_or_subset_iff {a b : List String} : keysEq a b = true ∨ keysSubset a b = true ↔ a ⊆ b :=
  ⟨fun h => h.elim (fun h => (keysEq_iff.mp h).1) keysSubset_iff.mp, fun h => .inr (keysSubset_iff.mpr h)⟩

theorem keysEq_comm (a b : List String) : keysEq a b = keysEq b a := Bool.and_comm _ _

@[simp] theorem keysEq_self (l : List String) : keysEq l l = true :=
  keysEq_iff.mpr ⟨List.Subset.refl _, List.Subset.refl _⟩

theorem exists_key_of_subset {A B : List α} (h : A.map key ⊆ B.map key) {a : α} (ha : a ∈ A) :
    ∃ b ∈ B, key b = key a :=
  List.mem_map.mp (h (List.mem_map_of_mem ha))

theorem same_members {A B : List α} (hk : keysEq (A.map key) (B.map key) = true)
    (h : ∀ a ∈ A, ∀ b ∈ B, key b = key a → b = a) (x : α) : x ∈ A ↔ x ∈ B := by
  obtain ⟨hAB, hBA⟩ := keysEq_iff.mp hk
  constructor
  · intro hx
    obtain ⟨b, hb, e⟩ := exists_key_of_subset hAB hx
    exact h x hx b hb e ▸ hb
  · intro hx
    obtain ⟨a, ha, e⟩ := exists_key_of_subset hBA hx
    exact h a ha x hx e.symm ▸ ha

/-! ### the verdicts of the nested comparisons -/

variable (cmp : α → α → Cmp) {A B : List α}

theorem of_mem_sharedVerdicts {c : Cmp} (h : c ∈ sharedVerdicts key cmp A B) :
    ∃ a ∈ A, ∃ b ∈ B, key b = key a ∧ cmp b a = c := by
  obtain ⟨a, ha, b, hf, hc⟩ := by simpa only [sharedVerdicts, List.mem_filterMap, Option.map_eq_some_iff] using h
  exact ⟨a, ha, b, (findBy_some hf).1, (findBy_some hf).2, hc⟩

theorem mem_sharedVerdicts_of (hB : (B.map key).Nodup) {a b : α} (ha : a ∈ A) (hb : b ∈ B) (hk : key b = key a) :
    cmp b a ∈ sharedVerdicts key cmp A B :=
  List.mem_filterMap.mpr ⟨a, ha, by rw [← hk, findBy_of_mem hB hb]; rfl⟩

theorem flip_mem_sharedVerdicts (hA : (A.map key).Nodup)
    (hflip : ∀ a ∈ A, ∀ b ∈ B, cmp a b = (cmp b a).flip) {c : Cmp} (h : c ∈ sharedVerdicts key cmp A B) :
    c.flip ∈ sharedVerdicts key cmp B A := by
  obtain ⟨a, ha, b, hb, hk, rfl⟩ := of_mem_sharedVerdicts cmp h
  exact hflip a ha b hb ▸ mem_sharedVerdicts_of cmp hA hb ha hk.symm

theorem sharedVerdicts_all_swap (hA : (A.map key).Nodup) (hB : (B.map key).Nodup)
    (hflip : ∀ a ∈ A, ∀ b ∈ B, cmp a b = (cmp b a).flip) (p : Cmp → Bool) (hp : ∀ c, p c.flip = p c) :
    (sharedVerdicts key cmp A B).all p = (sharedVerdicts key cmp B A).all p := by
  have hflip' : ∀ b ∈ B, ∀ a ∈ A, cmp b a = (cmp a b).flip := fun b hb a ha => by
    rw [hflip a ha b hb, Cmp.flip_flip]
  rw [Bool.eq_iff_iff, List.all_eq_true, List.all_eq_true]
  exact ⟨fun h c hc => hp c ▸ h _ (flip_mem_sharedVerdicts cmp hB hflip' hc),
    fun h c hc => hp c ▸ h _ (flip_mem_sharedVerdicts cmp hA hflip hc)⟩

theorem sharedVerdicts_any_swap (hA : (A.map key).Nodup) (hB : (B.map key).Nodup)
    (hflip : ∀ a ∈ A, ∀ b ∈ B, cmp a b = (cmp b a).flip) (p : Cmp → Bool) (hp : ∀ c, p c.flip = p c) :
    (sharedVerdicts key cmp A B).any p = (sharedVerdicts key cmp B A).any p := by
  rw [List.any_eq_not_all_not, List.any_eq_not_all_not,
    sharedVerdicts_all_swap cmp hA hB hflip (fun c => !p c) (fun c => by rw [hp])]

theorem sharedVerdicts_self {l : List α} (hn : (l.map key).Nodup) (hrefl : ∀ a ∈ l, cmp a a = .eq) :
    sharedVerdicts key cmp l l = l.map fun _ => .eq :=
  (filterMap_congr fun a ha => by rw [findBy_of_mem hn ha, Option.map_some, hrefl a ha]).trans
    (congrFun List.filterMap_eq_map' l)

/-- Across a version increase a verdict is `lt` or `incompat`: sub-elements none of whose comparisons
raises are accepted upgrades. -/
theorem sharedVerdicts_lt (hlt : ∀ a b, cmp a b = .lt ∨ cmp a b = .incompat)
    (hr : ∀ c ∈ sharedVerdicts key cmp A B, c ≠ .incompat) : ∀ c ∈ sharedVerdicts key cmp A B, c = .lt := fun c hc => by
  obtain ⟨a, _, b, _, _, rfl⟩ := of_mem_sharedVerdicts cmp hc
  exact (hlt b a).resolve_right (hr _ hc)

theorem sharedVerdicts_lt_iff (hlt : ∀ a b, cmp a b = .lt ∨ cmp a b = .incompat) :
    (∀ c ∈ sharedVerdicts key cmp A B, c ≠ .gt) ∧ (∀ c ∈ sharedVerdicts key cmp A B, c ≠ .incompat) ↔
      ∀ c ∈ sharedVerdicts key cmp A B, c = .lt :=
  ⟨fun h => sharedVerdicts_lt cmp hlt h.2,
    fun l => ⟨fun c hc => by rw [l c hc]; decide, fun c hc => by rw [l c hc]; decide⟩⟩

theorem sharedVerdicts_lt_trans {cmp₁ cmp₂ cmp₃ : α → α → Cmp} {A B C : List α}
    (hA : (A.map key).Nodup) (hB : (B.map key).Nodup) (hsub : A.map key ⊆ B.map key)
    (h1 : ∀ c ∈ sharedVerdicts key cmp₁ B A, c = .lt) (h2 : ∀ c ∈ sharedVerdicts key cmp₂ C B, c = .lt)
    (htrans : ∀ a b c, cmp₁ a b = .lt → cmp₂ b c = .lt → cmp₃ a c = .lt) :
    ∀ c ∈ sharedVerdicts key cmp₃ C A, c = .lt := fun c hc => by
  obtain ⟨z, hz, x, hx, hk, rfl⟩ := of_mem_sharedVerdicts cmp₃ hc
  obtain ⟨y, hy, hky⟩ := exists_key_of_subset hsub hx
  exact htrans x y z (h1 _ (mem_sharedVerdicts_of cmp₁ hA hy hx hky.symm))
    (h2 _ (mem_sharedVerdicts_of cmp₂ hB hz hy (hky.trans hk)))

end keyed

/-! ### normal form of flag accumulation -/

/-- Every accumulation step and-s something into `equal` and `valid` and or-s something into
`raised`. -/
def Flags.ap (f : Flags) (e v r : Bool) : Flags := ⟨f.equal && e, f.valid && v, f.raised || r⟩

@[simp] theorem ap_fields (f : Flags) (e v r : Bool) :
    (f.ap e v r).equal = (f.equal && e) ∧ (f.ap e v r).valid = (f.valid && v) ∧
      (f.ap e v r).raised = (f.raised || r) :=
  ⟨rfl, rfl, rfl⟩

/-- the verdict leaves `equal` alone -/
def okEq (c : Cmp) : Bool := c == .eq || c == .incompat

theorem eq_of_okEq {c : Cmp} (h : okEq c = true) (hr : c ≠ .incompat) : c = .eq := by
  cases c <;> simp_all [okEq]

theorem okEq_flip (c : Cmp) : okEq c.flip = okEq c := by cases c <;> rfl
theorem incompat_flip (c : Cmp) : (c.flip == Cmp.incompat) = (c == Cmp.incompat) := by cases c <;> rfl

@[simp] theorem andEqual_ap (f : Flags) (b : Bool) : f.andEqual b = f.ap b true false := by
  cases f; simp [Flags.andEqual, Flags.ap]

@[simp] theorem frozen_ap (f : Flags) (s : Bool) : f.frozen s = f.ap s s false := by
  cases f; cases s <;> simp [Flags.frozen, Flags.ap]

@[simp] theorem mono_ap (f : Flags) (s ok : Bool) : f.mono s ok = f.ap s (s || ok) false := by
  cases f; cases s <;> simp [Flags.mono, Flags.ap]

/-- a `mono` step for a flag that may only be switched on (`optional`, `multivalued`) -/
theorem mono_on_iff (x y : Bool) : (x = y ∨ y = true) ↔ (x = true → y = true) := by cases x <;> cases y <;> decide

@[simp] theorem sub_ap (f : Flags) (c : Cmp) : f.sub c = f.ap (okEq c) (c != .gt) (c == .incompat) := by
  cases f; cases c <;> simp [Flags.sub, Flags.ap, okEq]

theorem foldl_sub_ap (rs : List Cmp) (f : Flags) :
    rs.foldl Flags.sub f = f.ap (rs.all okEq) (rs.all (· != .gt)) (rs.any (· == .incompat)) := by
  induction rs generalizing f with
  | nil => cases f; simp [Flags.ap]
  | cons c rs ih => cases f; simp [ih, Flags.ap, Bool.and_assoc, Bool.or_assoc]

/-- Mind the order: `sharedVerdicts key cmp A B` walks `A` and looks each key up in `B`, answering
`cmp b a`; `subFold` walks `new` and looks up in `old`. So the verdicts `cmp o n` of old against new
are `sharedVerdicts key cmp new old`, in every statement about flags. -/
theorem subFold_eq {α : Type} (key : α → String) (cmp : α → α → Cmp) (old new : List α) (f : Flags) :
    subFold key cmp old new f = (sharedVerdicts key cmp new old).foldl Flags.sub f := by
  unfold subFold sharedVerdicts
  induction new generalizing f with
  | nil => rfl
  | cons a r ih =>
    rw [List.foldl_cons, List.filterMap_cons]
    cases findBy key (key a) old <;> exact ih _

@[simp] theorem subFold_ap {α : Type} (key : α → String) (cmp : α → α → Cmp) (old new : List α) (f : Flags) :
    subFold key cmp old new f =
      f.ap ((sharedVerdicts key cmp new old).all okEq) ((sharedVerdicts key cmp new old).all (· != .gt))
        ((sharedVerdicts key cmp new old).any (· == .incompat)) := by
  rw [subFold_eq, foldl_sub_ap]

/-- What `parentStep` folds in: adding an optional sub-element is an upgrade, dropping it a
downgrade. -/
def cmpOpt {α : Type} (cmp : α → α → Cmp) : Option α → Option α → Cmp
  | none, none => .eq
  | none, some _ => .lt
  | some _, none => .gt
  | some o, some n => cmp o n

@[simp] theorem parentStep_eq_sub (vo vn : Nat) (o n : Option ParentDef) (f : Flags) :
    parentStep vo vn o n f = f.sub (cmpOpt (cmpParent vo vn) o n) := by
  cases o <;> cases n <;> rfl

theorem cmpOpt_flip {α : Type} (cmp : α → α → Cmp) (h : ∀ a b, cmp b a = (cmp a b).flip) :
    ∀ x y : Option α, cmpOpt cmp y x = (cmpOpt cmp x y).flip
  | none, none | none, some _ | some _, none => rfl
  | some a, some b => h a b

theorem cmpOpt_self {α : Type} (cmp : α → α → Cmp) (h : ∀ a, cmp a a = .eq) : ∀ x : Option α, cmpOpt cmp x x = .eq
  | none => rfl
  | some a => h a

@[simp] theorem propKeyStep_eq_mono (o n : EventTypeDef) (f : Flags) :
    propKeyStep o n f = f.mono (keysEq (o.props.map (·.name)) (n.props.map (·.name)))
      (keysSubset (o.props.map (·.name)) (n.props.map (·.name)) &&
        (n.props.filter fun p => !(o.props.map (·.name)).contains p.name).all (·.optional) &&
        ((n.props.filter fun p => !(o.props.map (·.name)).contains p.name).isEmpty || !o.timeless || n.timeless)) :=
  rfl

/-! ### `Ontology.__cmp__`: one kind of definitions -/

section listsEq
variable {α : Type} {key : α → String} (cmp : α → α → Cmp) {A B : List α}

theorem listsEq_symm (hA : (A.map key).Nodup) (hB : (B.map key).Nodup)
    (hflip : ∀ a ∈ A, ∀ b ∈ B, cmp a b = (cmp b a).flip) : listsEq key cmp A B = listsEq key cmp B A := by
  simp only [listsEq]
  rw [List.contains_eq_any_beq, List.contains_eq_any_beq,
    sharedVerdicts_any_swap cmp hA hB hflip _ (fun c => by cases c <;> rfl),
    sharedVerdicts_all_swap cmp hA hB hflip (· == .eq) (fun c => by cases c <;> rfl), keysEq_comm]

theorem listsEq_refl (hA : (A.map key).Nodup) (hrefl : ∀ a ∈ A, cmp a a = .eq) : listsEq key cmp A A = .equal := by
  simp [listsEq, sharedVerdicts_self cmp hA hrefl]

theorem listsEq_equal_same (hB : (B.map key).Nodup) (hsame : ∀ a b, key b = key a → cmp b a = .eq → b = a)
    (h : listsEq key cmp A B = .equal) (x : α) : x ∈ A ↔ x ∈ B := by
  simp only [listsEq] at h
  split at h
  · cases h
  · split at h
    · rename_i hk
      rw [Bool.and_eq_true, List.all_eq_true] at hk
      exact same_members hk.1 (fun a ha b hb e => hsame a b e (beq_iff_eq.mp
        (hk.2 _ (mem_sharedVerdicts_of cmp hB ha hb e)))) x
    · cases h

theorem OntEq.and_equal (x y : OntEq) : x.and y = .equal ↔ x = .equal ∧ y = .equal := by
  cases x <;> cases y <;> simp [OntEq.and]

end listsEq

end Edxml.Ont
