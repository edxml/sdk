/-
Lists used as dictionaries: every member has a key, `l.find? (key · == k)` is the look-up, and the
keys are distinct (`(l.map key).Nodup`) where that matters. The look-ups of the model are this
`find?`, by definition (`Codec.lookupA`, `Transcode.getProp`, …) or by an equation proved where they
are first used (`Ont.findBy_eq_find?`, `lookupD_eq_find?`).
-/
namespace Edxml
variable {σ τ β κ : Type _} {key : σ → κ} {l : List σ}

theorem nodup_map_inj (hn : (l.map key).Nodup) {a b : σ} (ha : a ∈ l) (hb : b ∈ l) : key a = key b → a = b := by
  have hp : l.Pairwise fun a b => key a ≠ key b := List.pairwise_map.mp hn
  exact List.Pairwise.forall_of_forall_of_flip (R := fun a b => key a = key b → a = b)
    (fun _ _ _ => rfl) (hp.imp fun h e => absurd e h) (hp.imp fun h e => absurd e.symm h) ha hb

/-- All that distinct keys do for a look-up goes through this. -/
theorem find?_unique {p : σ → Bool} {s : σ} (hs : s ∈ l) (hp : ∀ a ∈ l, p a = true → a = s) :
    l.find? p = if p s then some s else none := by
  cases h : l.find? p with
  | none => rw [if_neg (List.find?_eq_none.mp h s hs)]
  | some a =>
    obtain rfl := hp a (List.mem_of_find?_eq_some h) (List.find?_some h)
    rw [if_pos (List.find?_some h)]

theorem find?_filter_none {p r : σ → Bool} (l : List σ) (h : ∀ a, p a = true → r a = false) :
    (l.filter r).find? p = none := by
  rw [List.find?_filter, List.find?_eq_none]
  intro a _
  cases hp : p a with
  | false => simp
  | true => simp [h a hp]

theorem find?_filter_keep {p r : σ → Bool} (l : List σ) (h : ∀ a, p a = true → r a = true) :
    (l.filter r).find? p = l.find? p := by
  rw [List.find?_filter]
  congr 1; funext a
  cases hp : p a with
  | false => simp
  | true => simp [h a hp]

variable [BEq κ] [LawfulBEq κ]

theorem find?_key_some {k : κ} {a : σ} (h : l.find? (key · == k) = some a) : a ∈ l ∧ key a = k :=
  ⟨List.mem_of_find?_eq_some h, eq_of_beq (List.find?_some h :)⟩

theorem find?_key_of_mem (hn : (l.map key).Nodup) {s : σ} (hs : s ∈ l) : l.find? (key · == key s) = some s := by
  rw [find?_unique hs fun a ha e => nodup_map_inj hn ha hs (eq_of_beq e), if_pos (beq_self_eq_true _)]

variable {key' : τ → κ}

omit [LawfulBEq κ] in
theorem find?_key_map {g : σ → τ} (hg : ∀ t, key' (g t) = key t) (k : κ) :
    (l.map g).find? (key' · == k) = (l.find? (key · == k)).map g := by
  rw [List.find?_map]
  exact congrArg (fun p => (l.find? p).map g) (funext fun t => by rw [Function.comp_apply, hg])

/-- The members without a value under `g` hide no entry of the table: no other member has the key of
`s`. -/
theorem find?_key_table (g : σ → Option β) (hn : (l.map key).Nodup) {s : σ} (hs : s ∈ l) :
    (l.filterMap fun t => (g t).map (key t, ·)).find? (·.1 == key s) = (g s).map (key s, ·) := by
  rw [List.find?_filterMap, find?_unique hs fun a ha e => ?_]
  · cases h : g s <;> simp [h]
  · obtain ⟨_, hb, e⟩ := (Option.any_eq_true _ _).mp e
    obtain ⟨_, _, rfl⟩ := Option.map_eq_some_iff.mp hb
    exact nodup_map_inj hn ha hs (eq_of_beq e)

/-- Values computed from the keys alone: whichever member with the key is found, the value is the same. -/
theorem find?_key_map_fun (f : κ → β) (l : List σ) (k : κ) :
    ((l.map fun t => (key t, f (key t))).find? (·.1 == k)).map (·.2) = if k ∈ l.map key then some (f k) else none := by
  rw [find?_key_map (key := key) (key' := Prod.fst) (fun _ => rfl)]
  cases h : l.find? (key · == k) with
  | none =>
    refine (if_neg fun hm => ?_).symm
    obtain ⟨t, ht, rfl⟩ := List.mem_map.mp hm
    exact List.find?_eq_none.mp h t ht (beq_self_eq_true _)
  | some t =>
    obtain ⟨ht, rfl⟩ := find?_key_some h
    rw [if_pos (List.mem_map_of_mem ht)]; rfl

theorem mem_of_lookup {l : List (κ × β)} {k : κ} {b : β} (h : l.lookup k = some b) : (k, b) ∈ l := by
  obtain ⟨l₁, l₂, rfl, _⟩ := List.lookup_eq_some_iff.mp h
  simp

theorem lookup_of_mem_nodup {l : List (κ × β)} {k : κ} {b : β} (hn : (l.map (·.1)).Nodup) (h : (k, b) ∈ l) :
    l.lookup k = some b := by
  obtain ⟨-, l₁, l₂, rfl, h'⟩ := List.find?_eq_some_iff_append.mp (find?_key_of_mem hn h)
  exact List.lookup_eq_some_iff.mpr ⟨l₁, l₂, rfl, fun p hp => bne_iff_ne.mpr fun e => by simpa [e] using h' p hp⟩

end Edxml
