/-
Membership in the lists that graph construction (`EdxmlModel/Miner/Construct.lean`) and `extract_result_set`
(`EdxmlModel/Miner/Extract.lean`) build.
-/
import EdxmlModel.Miner.Construct
import EdxmlModel.Miner.Extract
import EdxmlProps.Lemmas.Keyed
namespace Edxml.Miner.Construct

theorem mem_relationProps {et : EtDef} {x : String} :
    x ∈ relationProps et ↔ ∃ r ∈ et.rels, r.isConcept = true ∧ (x = r.source ∨ x = r.target) := by
  simp [relationProps, and_assoc]

theorem mem_sourceNodes {k : Nat} {r : RelDef} {ev : Ev} {n : NodeId} :
    n ∈ sourceNodes k r ev ↔ ∃ v ∈ objects ev r.source, n = ⟨k, r.source, r.sc, v⟩ := by
  simp [sourceNodes, eq_comm (a := n)]

theorem mem_targetNodes {k : Nat} {r : RelDef} {ev : Ev} {n : NodeId} :
    n ∈ targetNodes k r ev ↔ ∃ v ∈ objects ev r.target, n = ⟨k, r.target, r.tc, v⟩ := by
  simp [targetNodes, eq_comm (a := n)]

theorem mem_plainNodes {k : Nat} {et : EtDef} {ev : Ev} {n : NodeId} :
    n ∈ plainNodes k et ev ↔
      ∃ p ∈ et.props, p.name ∉ relationProps et ∧ ∃ c ∈ p.assocs, ∃ v ∈ objects ev p.name, n = ⟨k, p.name, c, v⟩ := by
  simp only [plainNodes, List.mem_flatMap, List.mem_filter, List.mem_map, Bool.not_eq_true', List.contains_eq_mem,
    decide_eq_false_iff_not, and_assoc, eq_comm (a := n)]

theorem mem_eventNodes {k : Nat} {et : EtDef} {ev : Ev} {n : NodeId} :
    n ∈ eventNodes k et ev ↔
      (∃ r ∈ et.rels, r.isConcept = true ∧ (n ∈ sourceNodes k r ev ∨ n ∈ targetNodes k r ev)) ∨ n ∈ plainNodes k et ev := by
  simp [eventNodes, relNodes, and_assoc]

theorem mem_relLinks {k : Nat} {r : RelDef} {ev : Ev} {l : Link} :
    l ∈ relLinks k r ev ↔
      ∃ s ∈ sourceNodes k r ev, ∃ t ∈ targetNodes k r ev, s ≠ t ∧ (l = ⟨s, t⟩ ∨ l = ⟨t, s⟩) := by
  unfold relLinks
  simp only [List.mem_flatMap]
  refine exists_congr fun s => and_congr_right fun _ => exists_congr fun t => and_congr_right fun _ => ?_
  split <;> simp [*]

theorem mem_eventLinks {k : Nat} {et : EtDef} {ev : Ev} {l : Link} :
    l ∈ eventLinks k et ev ↔ ∃ r ∈ et.rels, r.isConcept = true ∧ l ∈ relLinks k r ev := by
  simp [eventLinks, and_assoc]

theorem mem_graphNodes {n : NodeId} {evs : List (EtDef × Ev)} {k : Nat} :
    n ∈ graphNodes k evs ↔ ∃ i et ev, evs[i]? = some (et, ev) ∧ n ∈ eventNodes (k + i) et ev := by
  fun_induction graphNodes k evs with
  | case1 => simp
  | case2 k et0 ev0 rest ih =>
    rw [List.mem_append, ih]
    constructor
    · rintro (h | ⟨i, et, ev, hi, hn⟩)
      · exact ⟨0, et0, ev0, rfl, h⟩
      · exact ⟨i + 1, et, ev, hi, Nat.add_right_comm k 1 i ▸ hn⟩
    · rintro ⟨_ | i, et, ev, hi, hn⟩
      · cases hi; exact Or.inl hn
      · exact Or.inr ⟨i, et, ev, hi, Nat.add_right_comm k 1 i ▸ hn⟩

end Edxml.Miner.Construct

namespace Edxml.Miner.Extract

/-- `dedup` puts the members in one by one with core's `List.insert` -/
theorem dedup_cons {α : Type} [BEq α] (x : α) (xs : List α) : dedup (x :: xs) = (dedup xs).insert x := rfl

theorem mem_dedup {α : Type} [BEq α] [LawfulBEq α] {a : α} {l : List α} : a ∈ dedup l ↔ a ∈ l := by
  induction l with
  | nil => rfl
  | cons x xs ih => rw [dedup_cons, List.mem_insert_iff, ih, List.mem_cons]

theorem nodup_dedup {α : Type} [BEq α] [LawfulBEq α] (l : List α) : (dedup l).Nodup := by
  induction l with
  | nil => exact .nil
  | cons x xs ih =>
    rw [dedup_cons, List.insert_eq]
    split
    · exact ih
    · exact List.nodup_cons.mpr ⟨‹_›, ih⟩

theorem qualifies_iff {min : Rat} {n : ONode} {s : Nat} :
    qualifies min n s = true ↔ ∃ c, n.sc.lookup s = some c ∧ min ≤ c := by
  unfold qualifies
  cases n.sc.lookup s <;> simp

theorem mem_seedsOf {nodes : List ONode} {min : Rat} {s : Nat} :
    s ∈ seedsOf nodes min ↔ ∃ n ∈ nodes, qualifies min n s = true := by
  unfold seedsOf
  simp only [mem_dedup, List.mem_flatMap, List.mem_filter, List.mem_map]
  refine exists_congr fun n => and_congr_right fun _ => and_iff_right_of_imp fun hq => ?_
  obtain ⟨c, hc, _⟩ := qualifies_iff.mp hq
  exact ⟨(s, c), mem_of_lookup hc, rfl⟩

theorem mem_attrsOf {nodes : List ONode} {min : Rat} {s : Nat} {a v : String} :
    (a, v) ∈ attrsOf nodes min s ↔ ∃ n ∈ nodes, qualifies min n s = true ∧ n.attr = a ∧ n.value = v := by
  simp [attrsOf, mem_dedup, and_assoc]

theorem mem_attrNodes {nodes : List ONode} {min : Rat} {s : Nat} {a v : String} {k : Nat} :
    k ∈ attrNodes nodes min s a v ↔ ∃ n ∈ nodes, qualifies min n s = true ∧ n.attr = a ∧ n.value = v ∧ n.id = k := by
  simp [attrNodes, and_assoc]

theorem mem_extract_levels {nodes : List ONode} {min : Rat} {s : Nat} {a v : String} {k : Nat} :
    (∃ i ∈ extract nodes min, i.seed = s ∧ ∃ x ∈ i.attrs, x.name = a ∧ x.value = v ∧ k ∈ x.nodes) ↔
      s ∈ seedsOf nodes min ∧ (a, v) ∈ attrsOf nodes min s ∧ k ∈ attrNodes nodes min s a v := by
  unfold extract
  constructor
  · rintro ⟨i, hi, rfl, x, hx, rfl, rfl, hk⟩
    obtain ⟨s, hs, rfl⟩ := List.mem_map.mp hi
    obtain ⟨av, hav, rfl⟩ := List.mem_map.mp hx
    exact ⟨hs, hav, hk⟩
  · rintro ⟨hs, hav, hk⟩
    exact ⟨_, List.mem_map.mpr ⟨s, hs, rfl⟩, rfl, _, List.mem_map.mpr ⟨(a, v), hav, rfl⟩, rfl, rfl, hk⟩

theorem map_seed_extract (nodes : List ONode) (min : Rat) : (extract nodes min).map (·.seed) = seedsOf nodes min := by
  simp [extract, Function.comp_def]

end Edxml.Miner.Extract
