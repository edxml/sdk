/-
The orders the merge model uses: the key order of `min`/`max` as a total preorder, the stable sort by
version and the version order of `merge_events`.
-/
import EdxmlModel.Event.Merge
import EdxmlProps.Lemmas.ListSet
namespace Edxml

structure TotalPreorder (le : α → α → Bool) : Prop where
  total : ∀ a b, le a b = true ∨ le b a = true
  trans : ∀ a b c, le a b = true → le b c = true → le a c = true

theorem TotalPreorder.refl {le : α → α → Bool} (hp : TotalPreorder le) (a : α) : le a a = true :=
  (hp.total a a).elim id id

theorem TotalPreorder.flip {le : α → α → Bool} (hp : TotalPreorder le) :
    TotalPreorder (fun a b => le b a) where
  total := fun a b => (hp.total a b).symm
  trans := fun a b c h1 h2 => hp.trans c b a h2 h1

theorem StrictTotal.not_gt_preorder {lt : α → α → Bool} (h : StrictTotal lt) :
    TotalPreorder fun a b => !lt b a where
  total a b := by
    cases hba : lt b a
    · exact .inl rfl
    · exact .inr (by rw [h.asymm hba]; rfl)
  trans a b c hab hbc := by
    simp only [Bool.not_eq_true'] at *
    cases hca : lt c a with
    | false => rfl
    | true =>
      -- `c < a`, so `b < c` would give `b < a`; hence `b = c`, and `c < a` contradicts `¬ b < a`
      cases hbc' : lt b c with
      | true => rw [h.trans _ _ _ hbc' hca] at hab; cases hab
      | false => rw [h.total b c hbc' hbc, hca] at hab; cases hab

theorem keyLe_preorder (numeric : Bool) : TotalPreorder (keyLe numeric) := by
  cases numeric
  · exact strLt_strictTotal.not_gt_preorder
  · exact ⟨fun a b => by simpa [keyLe] using Rat.le_total,
      fun a b c => by simpa [keyLe] using Rat.le_trans⟩

theorem insertByKey_perm (k : α → Int) (x : α) (l : List α) : (insertByKey k x l).Perm (x :: l) := by
  fun_induction insertByKey k x l with
  | case3 y ys _ ih => exact (ih.cons y).trans (.swap x y ys)
  | _ => exact .refl _

abbrev KSorted (k : α → Int) (l : List α) : Prop := l.Pairwise (fun a b => k a ≤ k b)

theorem insertByKey_sorted (k : α → Int) (x : α) (l : List α) (h : KSorted k l) :
    KSorted k (insertByKey k x l) := by
  fun_induction insertByKey k x l with
  | case1 => exact List.pairwise_singleton _ _
  | case2 =>
    refine List.pairwise_cons.mpr ⟨fun b hb => ?_, h⟩
    rcases List.mem_cons.mp hb with rfl | hb
    · omega
    · have := List.rel_of_pairwise_cons h hb; omega
  | case3 y ys _ ih =>
    have ⟨hy, hys⟩ := List.pairwise_cons.mp h
    refine List.pairwise_cons.mpr ⟨fun b hb => ?_, ih hys⟩
    rcases List.mem_cons.mp ((insertByKey_perm k x ys).mem_iff.mp hb) with rfl | hb
    · omega
    · exact hy b hb

theorem stableSort_eq_foldr (k : α → Int) (l : List α) :
    stableSort k l = l.reverse.foldr (insertByKey k) [] := by
  rw [List.foldr_reverse]; rfl

theorem stableSort_perm (k : α → Int) (l : List α) : (stableSort k l).Perm l := by
  rw [stableSort_eq_foldr]
  refine .trans ?_ (List.reverse_perm l)
  induction l.reverse with
  | nil => exact .refl _
  | cons x xs ih => exact (insertByKey_perm k x _).trans (ih.cons x)

theorem stableSort_sorted (k : α → Int) (l : List α) : KSorted k (stableSort k l) := by
  rw [stableSort_eq_foldr]
  induction l.reverse with
  | nil => exact .nil
  | cons x xs ih => exact insertByKey_sorted k x _ ih

theorem getLast_max (k : α → Int) (l : List α) (h : KSorted k l) (e : α) (he : l.getLast? = some e) :
    ∀ x ∈ l, k x ≤ k e := by
  obtain ⟨ys, rfl⟩ := List.getLast?_eq_some_iff.mp he
  intro x hx
  rcases List.mem_append.mp hx with hx | hx
  · exact (List.pairwise_append.mp h).2.2 x hx e (List.mem_singleton.mpr rfl)
  · rw [List.mem_singleton.mp hx]; exact Int.le_refl _

theorem versionOrder_perm (vp : Option String) (es : List Event) : (versionOrder vp es).Perm es := by
  cases vp with
  | none => exact List.Perm.refl _
  | some v => exact stableSort_perm _ _

theorem mem_versionOrder (vp : Option String) (es : List Event) (e : Event) :
    e ∈ versionOrder vp es ↔ e ∈ es := (versionOrder_perm vp es).mem_iff

theorem versionOrder_sorted (v : String) (es : List Event) :
    KSorted (versionInt v) (versionOrder (some v) es) := stableSort_sorted _ _

end Edxml
