/-
Per-key processing of event streams (the dict-of-hash models of `resolve_collisions` and the stream
mergers): `mapE`, `keysOf`/`groupOf`/`perKey`, and the batches `chunksL` of the buffering merger.
-/
import EdxmlProps.Lemmas.Objects
namespace Edxml

/-- Pointwise relation of two lists (core has no `List.Forall₂`); what `mapE f l = .ok R` says of `l`
and `R`. -/
inductive Forall2 (P : α → β → Prop) : List α → List β → Prop
  | nil : Forall2 P [] []
  | cons {a b as bs} : P a b → Forall2 P as bs → Forall2 P (a :: as) (b :: bs)

theorem mapE_ok {f : α → Except ε β} {l : List α} {R : List β} (h : mapE f l = .ok R) :
    Forall2 (fun a b => f a = .ok b) l R := by
  fun_induction mapE f l generalizing R with
  | case1 => cases h; exact .nil
  | case4 x xs y hx ys hxs ih => cases h; exact .cons hx (ih hxs)
  | _ => cases h

theorem mapE_of_forall₂ {f : α → Except ε β} : ∀ {l : List α} {R : List β},
    Forall2 (fun a b => f a = .ok b) l R → mapE f l = .ok R := by
  intro l R h
  induction h with
  | nil => rfl
  | cons hx _ ih => simp only [mapE, hx, ih]

theorem mapE_total (f : α → Except ε β) (l : List α) (h : ∀ x ∈ l, ∃ y, f x = .ok y) :
    ∃ R, mapE f l = .ok R := by
  induction l with
  | nil => exact ⟨[], rfl⟩
  | cons x xs ih =>
    obtain ⟨y, hy⟩ := h x List.mem_cons_self
    obtain ⟨R, hR⟩ := ih fun z hz => h z (List.mem_cons_of_mem _ hz)
    exact ⟨y :: R, mapE_of_forall₂ (.cons hy (mapE_ok hR))⟩

theorem Forall2.filter {P : α → β → Prop} (p : α → Bool) (q : β → Bool) {l : List α} {R : List β}
    (hf : Forall2 P l R) (h : ∀ a ∈ l, ∀ b, P a b → p a = q b) :
    Forall2 P (l.filter p) (R.filter q) := by
  induction hf with
  | nil => exact .nil
  | @cons a b as bs hab _ ih =>
    have ih := ih fun a' ha' => h a' (List.mem_cons_of_mem _ ha')
    rw [List.filter_cons, List.filter_cons, ← h a List.mem_cons_self b hab]
    split
    · exact .cons hab ih
    · exact ih

theorem filter_beq_of_nodup [BEq α] [LawfulBEq α] (h : α) : ∀ (l : List α), l.Nodup →
    l.filter (fun k => k == h) = if h ∈ l then [h] else [] := fun l hn => by
  rw [List.filter_beq, hn.count]; split <;> rfl

theorem mem_keysOf (key : Event → Bytes) (es : List Event) (k : Bytes) :
    k ∈ keysOf key es ↔ ∃ e ∈ es, key e = k := by
  unfold keysOf
  rw [mem_firstOccurrences, List.mem_map]

theorem mem_groupOf (key : Event → Bytes) (es : List Event) (k : Bytes) (e : Event) :
    e ∈ groupOf key k es ↔ e ∈ es ∧ key e = k := by
  unfold groupOf; simp only [List.mem_filter, beq_iff_eq]

theorem groupOf_eq_nil_iff (key : Event → Bytes) (es : List Event) (k : Bytes) :
    groupOf key k es = [] ↔ k ∉ keysOf key es := by
  simp only [List.eq_nil_iff_forall_not_mem, mem_groupOf, mem_keysOf, not_exists]

theorem groupOf_append (key : Event → Bytes) (k : Bytes) (a b : List Event) :
    groupOf key k (a ++ b) = groupOf key k a ++ groupOf key k b :=
  List.filter_append ..

/-- `hF`: `F` maps a bucket to an event of that bucket; then bucket `k` of the output holds the one
result of `F` on bucket `k` of the input. -/
theorem perKey_bucket (key : Event → Bytes) (F : List Event → Except MergeErr Event)
    (hF : ∀ (k : Bytes) (g : List Event) (r : Event), g ≠ [] → (∀ e ∈ g, key e = k) →
      F g = .ok r → key r = k)
    (es R : List Event) (hR : perKey key F es = .ok R) (k : Bytes) :
    (groupOf key k es = [] ∧ groupOf key k R = []) ∨
    (groupOf key k es ≠ [] ∧ ∃ r, F (groupOf key k es) = .ok r ∧ groupOf key k R = [r]) := by
  -- every result carries its key: filter both sides of `mapE_ok hR` by `k`; the keys are distinct
  have hk : Forall2 _ ((keysOf key es).filter (· == k)) (groupOf key k R) :=
    (mapE_ok hR).filter _ _ fun k' hk' r hr => by
      rw [hF k' _ r (fun e => (groupOf_eq_nil_iff key es k').mp e hk')
        (fun e he => ((mem_groupOf key es k' e).mp he).2) hr]
  rw [filter_beq_of_nodup k (keysOf key es) (nodup_firstOccurrences _)] at hk
  rw [Ne, groupOf_eq_nil_iff key es, Classical.not_not]
  generalize groupOf key k R = X at hk ⊢
  split at hk
  · obtain _ | ⟨hr, ⟨⟩⟩ := hk
    exact .inr ⟨‹_›, _, hr, rfl⟩
  · cases hk
    exact .inl ⟨‹_›, rfl⟩

theorem chunksL_flatten (k : Nat) (l : List α) : (chunksL k l).flatten = l := by
  fun_induction chunksL k l with
  | case1 => rfl
  | case2 l _ _ => exact List.append_nil l
  | case3 l _ _ ih => rw [List.flatten_cons, ih, List.take_append_drop]

theorem chunksL_nonempty (k : Nat) : ∀ (l : List α), ∀ c ∈ chunksL k l, c ≠ [] := by
  intro l
  fun_induction chunksL k l with
  | case1 => intro c hc; cases hc
  | case2 l _ hl => intro c hc; rwa [List.mem_singleton.mp hc]
  | case3 l hkl _ ih =>
    intro c hc
    rcases List.mem_cons.mp hc with rfl | hc
    · have hk : k ≠ 0 := fun e => hkl (.inl e)
      have hl : l ≠ [] := fun e => hkl (.inr e)
      simp [hk, hl]
    · exact ih c hc

end Edxml
