/-
Base64 (RFC 4648): the strings `base64DecodedLength` accepts are exactly the encodings of non-empty
octet strings (`base64DecodedLength_eq_some`), by way of the shape it checks (`B64Shape`).

The model has the alphabet twice: `Gate.b64Char` looks the symbol up in a string, `Edxml.b64Char`
(Basic/Bytes.lean) computes its code point. `b64Char_eq` says they agree; the tables are checked on
the second and carried over to the first (`b64_ofIndex`, `b64_ofChar`).
-/
import EdxmlModel.DataType.Gate
import EdxmlProps.Lemmas.Digits
namespace Edxml.Gate

/-! ### the alphabet -/

-- The literal is `String.ofList` of this list up to evaluation; evaluating `String.toList` on the
-- 64-character literal instead is far dearer for the kernel, so nothing below unfolds it.
theorem b64Alphabet_eq : b64Alphabet = (List.range 64).map Edxml.b64Char :=
  String.toList_ofList

theorem b64Char_eq {n : Nat} (h : n < 64) : b64Char n = Edxml.b64Char n := by
  simp [b64Char, b64Alphabet_eq, h]

theorem b64_table : ∀ n, n < 64 →
    isB64 (Edxml.b64Char n) = true ∧ b64Index (Edxml.b64Char n) = n := by
  decide +kernel

/-- from symbol to index; 123: the code points up to `z` -/
theorem b64_table_inv : ∀ m, m < 123 → isB64 (Char.ofNat m) = true →
    b64Index (Char.ofNat m) < 64 ∧ Edxml.b64Char (b64Index (Char.ofNat m)) = Char.ofNat m := by
  decide +kernel

theorem isB64_lt {c : Char} (h : isB64 c = true) : c.toNat < 123 := by
  simp only [isB64, Bool.or_eq_true, Bool.and_eq_true, decide_eq_true_eq, charLe_iff, isDigit_iff, beq_iff_eq,
    ← Char.toNat_inj, Char.reduceToNat] at h
  omega

theorem b64_ofIndex {n : Nat} (h : n < 64) : isB64 (b64Char n) = true ∧ b64Index (b64Char n) = n := by
  rw [b64Char_eq h]; exact b64_table n h

theorem b64_ofChar {c : Char} (h : isB64 c = true) : b64Index c < 64 ∧ b64Char (b64Index c) = c := by
  have := b64_table_inv c.toNat (isB64_lt h)
  rw [Char.ofNat_toNat] at this
  exact ⟨(this h).1, by rw [b64Char_eq (this h).1, (this h).2]⟩

theorem isB64_ne_pad {c : Char} (h : isB64 c = true) : (c == '=') = false := by
  rw [beq_eq_false_iff_ne]; rintro rfl; revert h; decide

/-! ### one block: three octets are four sextets -/

-- A short final block is the case of one or two zero octets (sextets): the padding stands where the
-- symbol `A` would be.

theorem sextets_of_octets {a b c : Nat} (ha : a < 256) (hb : b < 256) (hc : c < 256) :
    (a / 4 < 64 ∧ a % 4 * 16 + b / 16 < 64 ∧ b % 16 * 4 + c / 64 < 64 ∧ c % 64 < 64) ∧
    a / 4 * 4 + (a % 4 * 16 + b / 16) / 16 = a ∧
    (a % 4 * 16 + b / 16) % 16 * 16 + (b % 16 * 4 + c / 64) / 4 = b ∧
    (b % 16 * 4 + c / 64) % 4 * 64 + c % 64 = c := by
  have h1 : b / 16 < 16 := Nat.div_lt_of_lt_mul hb
  have h2 : c / 64 < 4 := Nat.div_lt_of_lt_mul hc
  have h3 : a % 4 < 4 := Nat.mod_lt _ (by decide)
  have h4 : b % 16 < 16 := Nat.mod_lt _ (by decide)
  rw [(two_digits h1).1, (two_digits h1).2, (two_digits h2).1, (two_digits h2).2, Nat.div_add_mod' a 4, Nat.div_add_mod' b 16,
    Nat.div_add_mod' c 64]
  exact ⟨⟨Nat.div_lt_of_lt_mul ha, two_digits_lt h3 h1, two_digits_lt h4 h2, Nat.mod_lt _ (by decide)⟩, rfl, rfl, rfl⟩

theorem octets_of_sextets {s t u v : Nat} (hs : s < 64) (ht : t < 64) (hu : u < 64) (hv : v < 64) :
    (s * 4 + t / 16 < 256 ∧ t % 16 * 16 + u / 4 < 256 ∧ u % 4 * 64 + v < 256) ∧
    (s * 4 + t / 16) / 4 = s ∧
    (s * 4 + t / 16) % 4 * 16 + (t % 16 * 16 + u / 4) / 16 = t ∧
    (t % 16 * 16 + u / 4) % 16 * 4 + (u % 4 * 64 + v) / 64 = u ∧
    (u % 4 * 64 + v) % 64 = v := by
  have h1 : t / 16 < 4 := Nat.div_lt_of_lt_mul ht
  have h2 : u / 4 < 16 := Nat.div_lt_of_lt_mul hu
  have h3 : t % 16 < 16 := Nat.mod_lt _ (by decide)
  have h4 : u % 4 < 4 := Nat.mod_lt _ (by decide)
  rw [(two_digits h1).1, (two_digits h1).2, (two_digits h2).1, (two_digits h2).2, (two_digits hv).1, (two_digits hv).2,
    Nat.div_add_mod' t 16, Nat.div_add_mod' u 4]
  exact ⟨⟨two_digits_lt hs h1, two_digits_lt h3 h2, two_digits_lt h4 hv⟩, rfl, rfl, rfl, rfl⟩

theorem b64Decode_b64Encode (bs : List Nat) (h : ∀ b ∈ bs, b < 256) : b64Decode (b64Encode bs) = bs := by
  fun_induction b64Encode bs with
  | case1 => rfl
  | case2 a =>
    obtain ⟨⟨s1, s2, -, -⟩, e1, -, -⟩ := sextets_of_octets (h a (by simp)) (b := 0) (c := 0) (by omega) (by omega)
    simp only [Nat.zero_div, Nat.add_zero] at s2 e1
    simp only [b64Decode, beq_self_eq_true, if_true, (b64_ofIndex s1).2, (b64_ofIndex s2).2, e1]
  | case3 a b =>
    obtain ⟨⟨s1, s2, s3, -⟩, e1, e2, -⟩ := sextets_of_octets (h a (by simp)) (h b (by simp)) (c := 0) (by omega)
    simp only [Nat.zero_div, Nat.add_zero] at s3 e2
    simp only [b64Decode, isB64_ne_pad (b64_ofIndex s3).1, beq_self_eq_true, if_true, Bool.false_eq_true, if_false,
      (b64_ofIndex s1).2, (b64_ofIndex s2).2, (b64_ofIndex s3).2, e1, e2]
  | case4 a b c r ih =>
    obtain ⟨⟨s1, s2, s3, s4⟩, e1, e2, e3⟩ := sextets_of_octets (h a (by simp)) (h b (by simp)) (h c (by simp))
    simp only [b64Decode, isB64_ne_pad (b64_ofIndex s3).1, isB64_ne_pad (b64_ofIndex s4).1, Bool.false_eq_true,
      if_false, (b64_ofIndex s1).2, (b64_ofIndex s2).2, (b64_ofIndex s3).2, (b64_ofIndex s4).2, e1, e2, e3,
      ih fun x hx => h x (by simp [hx])]

/-! ### the shape of an encoding -/

/-- What `base64DecodedLength` demands of `body ++ replicate k '='`: symbols, then 0..2 padding
characters up to a multiple of four, the unused low bits of the last symbol zero. -/
structure B64Shape (body : List Char) (k : Nat) : Prop where
  sym : body.all isB64 = true
  pad : k ≤ 2
  len : (body.length + k) % 4 = 0
  last : lastOkB k body.getLast? = true

theorem b64Shape_block {w x y z : Char} {body : List Char} {k : Nat} :
    B64Shape (w :: x :: y :: z :: body) k ↔
      (isB64 w = true ∧ isB64 x = true ∧ isB64 y = true ∧ isB64 z = true) ∧ B64Shape body k := by
  -- the last symbol is only looked at when there is padding, and then `body` is not empty
  have hlast : (body.length + k) % 4 = 0 → k ≤ 2 →
      lastOkB k (w :: x :: y :: z :: body).getLast? = lastOkB k body.getLast? := by
    intro hl hk
    cases body with
    | nil =>
      obtain rfl : k = 0 := by simp only [List.length_nil] at hl; omega
      rfl
    | cons c cs => simp only [List.getLast?_cons_cons]
  have hlen : ((w :: x :: y :: z :: body).length + k) % 4 = (body.length + k) % 4 := by
    simp only [List.length_cons]; omega
  constructor
  · rintro ⟨hs, hp, hl, hla⟩
    simp only [List.all_cons, Bool.and_eq_true] at hs
    rw [hlen] at hl
    exact ⟨⟨hs.1, hs.2.1, hs.2.2.1, hs.2.2.2.1⟩, hs.2.2.2.2, hp, hl, hlast hl hp ▸ hla⟩
  · rintro ⟨⟨hw, hx, hy, hz⟩, hs, hp, hl, hla⟩
    exact ⟨by simp only [List.all_cons, hw, hx, hy, hz, hs, Bool.and_self], hp, hlen ▸ hl, hlast hl hp ▸ hla⟩

theorem b64Encode_shape (bs : List Nat) (h : ∀ b ∈ bs, b < 256) :
    ∃ body k, B64Shape body k ∧ b64Encode bs = body ++ List.replicate k '=' := by
  fun_induction b64Encode bs with
  | case1 => exact ⟨[], 0, ⟨rfl, by omega, rfl, rfl⟩, rfl⟩
  | case2 a =>
    obtain ⟨⟨s1, s2, -, -⟩, -⟩ := sextets_of_octets (h a (by simp)) (b := 0) (c := 0) (by omega) (by omega)
    simp only [Nat.zero_div, Nat.add_zero] at s2
    refine ⟨[_, _], 2, ⟨?_, by omega, by simp, ?_⟩, rfl⟩
    · simp only [List.all_cons, List.all_nil, (b64_ofIndex s1).1, (b64_ofIndex s2).1, Bool.and_self]
    · simp only [lastOkB, List.getLast?_cons_cons, List.getLast?_singleton, (b64_ofIndex s2).2, beq_iff_eq]; omega
  | case3 a b =>
    obtain ⟨⟨s1, s2, s3, -⟩, -⟩ := sextets_of_octets (h a (by simp)) (h b (by simp)) (c := 0) (by omega)
    simp only [Nat.zero_div, Nat.add_zero] at s3
    refine ⟨[_, _, _], 1, ⟨?_, by omega, by simp, ?_⟩, rfl⟩
    · simp only [List.all_cons, List.all_nil, (b64_ofIndex s1).1, (b64_ofIndex s2).1, (b64_ofIndex s3).1, Bool.and_self]
    · simp only [lastOkB, List.getLast?_cons_cons, List.getLast?_singleton, (b64_ofIndex s3).2, beq_iff_eq]; omega
  | case4 a b c r ih =>
    obtain ⟨⟨s1, s2, s3, s4⟩, -⟩ := sextets_of_octets (h a (by simp)) (h b (by simp)) (h c (by simp))
    obtain ⟨body, k, hs, e⟩ := ih fun x hx => h x (by simp [hx])
    exact ⟨_ :: _ :: _ :: _ :: body, k,
      b64Shape_block.mpr ⟨⟨(b64_ofIndex s1).1, (b64_ofIndex s2).1, (b64_ofIndex s3).1, (b64_ofIndex s4).1⟩, hs⟩,
      by rw [e]; rfl⟩

theorem b64Encode_b64Decode : ∀ (body : List Char) (k : Nat), B64Shape body k →
    b64Encode (b64Decode (body ++ List.replicate k '=')) = body ++ List.replicate k '=' ∧
    (∀ b ∈ b64Decode (body ++ List.replicate k '='), b < 256) ∧
    (b64Decode (body ++ List.replicate k '=')).length = body.length * 3 / 4
  | [], k, ⟨_, hk, hlen, _⟩ => by
    obtain rfl : k = 0 := by simp only [List.length_nil] at hlen; omega
    simp [b64Decode, b64Encode]
  | [w], k, ⟨_, hk, hlen, _⟩ => by simp only [List.length_cons, List.length_nil] at hlen; omega
  | [w, x], k, ⟨hs, hk, hlen, hl⟩ => by
    obtain rfl : k = 2 := by simp only [List.length_cons, List.length_nil] at hlen; omega
    simp only [List.all_cons, List.all_nil, Bool.and_true, Bool.and_eq_true] at hs
    simp only [lastOkB, List.getLast?_cons_cons, List.getLast?_singleton, beq_iff_eq] at hl
    obtain ⟨⟨o1, -, -⟩, e1, e2, -, -⟩ :=
      octets_of_sextets (b64_ofChar hs.1).1 (b64_ofChar hs.2).1 (u := 0) (v := 0) (by omega) (by omega)
    simp only [hl, Nat.zero_mul, Nat.zero_div, Nat.add_zero] at e2
    simp only [List.replicate, List.cons_append, List.nil_append, b64Decode, beq_self_eq_true, if_true, b64Encode, o1, e1, e2,
      (b64_ofChar hs.1).2, (b64_ofChar hs.2).2, List.mem_singleton, forall_eq, List.length_cons, List.length_nil, true_and]
  | [w, x, y], k, ⟨hs, hk, hlen, hl⟩ => by
    obtain rfl : k = 1 := by simp only [List.length_cons, List.length_nil] at hlen; omega
    simp only [List.all_cons, List.all_nil, Bool.and_true, Bool.and_eq_true] at hs
    simp only [lastOkB, List.getLast?_cons_cons, List.getLast?_singleton, beq_iff_eq] at hl
    obtain ⟨⟨o1, o2, -⟩, e1, e2, e3, -⟩ :=
      octets_of_sextets (b64_ofChar hs.1).1 (b64_ofChar hs.2.1).1 (b64_ofChar hs.2.2).1 (v := 0) (by omega)
    simp only [hl, Nat.zero_mul, Nat.zero_div, Nat.add_zero] at e3
    simp only [List.replicate, List.cons_append, List.nil_append, b64Decode, isB64_ne_pad hs.2.2, beq_self_eq_true, if_true,
      Bool.false_eq_true, if_false, b64Encode, o1, o2, e1, e2, e3, (b64_ofChar hs.1).2, (b64_ofChar hs.2.1).2,
      (b64_ofChar hs.2.2).2, List.mem_cons, List.mem_nil_iff, or_false, forall_eq_or_imp, forall_eq, List.length_cons,
      List.length_nil, and_self]
  | w :: x :: y :: z :: body, k, h => by
    obtain ⟨⟨hw, hx, hy, hz⟩, h'⟩ := b64Shape_block.mp h
    obtain ⟨ih1, ih2, ih3⟩ := b64Encode_b64Decode body k h'
    obtain ⟨o, e1, e2, e3, e4⟩ :=
      octets_of_sextets (b64_ofChar hw).1 (b64_ofChar hx).1 (b64_ofChar hy).1 (b64_ofChar hz).1
    simp only [List.cons_append, b64Decode, isB64_ne_pad hy, isB64_ne_pad hz, Bool.false_eq_true, if_false, b64Encode,
      e1, e2, e3, e4, (b64_ofChar hw).2, (b64_ofChar hx).2, (b64_ofChar hy).2, (b64_ofChar hz).2, ih1, List.mem_cons,
      forall_eq_or_imp, o, List.length_cons, ih3, true_and]
    exact ⟨ih2, by omega⟩

theorem decodedLength_iff_shape {cs : List Char} {n : Nat} :
    base64DecodedLength cs = some n ↔
      cs ≠ [] ∧ ∃ body k, B64Shape body k ∧ cs = body ++ List.replicate k '=' ∧ n = body.length * 3 / 4 := by
  simp only [base64DecodedLength, Option.ite_none_left_eq_some, Option.some.injEq, Bool.or_eq_true, bne_iff_ne, ne_eq,
    List.isEmpty_iff, Bool.not_eq_true', decide_eq_true_eq, not_or, Decidable.not_not, Bool.not_eq_false, Nat.not_lt]
  constructor
  · rintro ⟨⟨hlen, hne⟩, ⟨⟨hsym, hpad⟩, hk⟩, hlast, rfl⟩
    have hcs := List.takeWhile_append_dropWhile (p := (· != '=')) (l := cs)
    refine ⟨hne, _, _, ⟨hsym, hk, ?_, hlast⟩, ?_, rfl⟩
    · rw [← List.length_append, hcs]; exact hlen
    · rw [← List.eq_replicate_iff.mpr ⟨rfl, by simpa using hpad⟩, hcs]
  · rintro ⟨hne, body, k, ⟨hsym, hk, hlen, hlast⟩, rfl, rfl⟩
    have hb : ∀ c ∈ body, (c != '=') = true := fun c hc => by
      simp only [bne, isB64_ne_pad (List.all_eq_true.mp hsym c hc), Bool.not_false]
    rw [List.takeWhile_append_of_pos hb, List.dropWhile_append_of_pos hb, List.takeWhile_replicate, List.dropWhile_replicate]
    simp [hne, hsym, hk, hlen, hlast]

/-- The gate's length function is defined exactly on the canonical notations (RFC 4648, padded, no
white space) of the non-empty octet strings, and gives the number of octets. -/
theorem base64DecodedLength_eq_some {cs : List Char} {n : Nat} :
    base64DecodedLength cs = some n ↔
      ∃ bs : List Nat, (∀ b ∈ bs, b < 256) ∧ bs ≠ [] ∧ cs = b64Encode bs ∧ n = bs.length := by
  rw [decodedLength_iff_shape]
  constructor
  · rintro ⟨hne, body, k, hs, rfl, rfl⟩
    obtain ⟨e, ho, hl⟩ := b64Encode_b64Decode body k hs
    exact ⟨_, ho, fun h0 => hne (by rw [← e, h0]; rfl), e.symm, hl.symm⟩
  · rintro ⟨bs, hb, hne, rfl, rfl⟩
    obtain ⟨body, k, hs, e⟩ := b64Encode_shape bs hb
    refine ⟨fun h0 => hne ?_, body, k, hs, e, ?_⟩
    · rw [← b64Decode_b64Encode bs hb, h0]; rfl
    · rw [← (b64Encode_b64Decode body k hs).2.2, ← e, b64Decode_b64Encode bs hb]

end Edxml.Gate
