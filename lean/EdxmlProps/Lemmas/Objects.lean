/-
Object sets: the members of `Event.objects` in terms of the event's (property, object) pairs and of
its property table, and `firstOccurrences` (the duplicate-free object lists of `Mut.dedup`, the key
order of a Python dict).
-/
import EdxmlModel.Event.Merge
import EdxmlProps.Lemmas.ListSet
import EdxmlProps.Lemmas.Keyed
namespace Edxml

theorem mem_pairs (e : Event) (p v : String) :
    (p, v) ∈ e.pairs ↔ ∃ pv ∈ e.props, pv.1 = p ∧ v ∈ pv.2 := by
  simp only [Event.pairs, List.mem_flatMap, List.mem_map, Prod.mk.injEq]
  constructor
  · rintro ⟨pv, hpv, w, hw, rfl, rfl⟩; exact ⟨pv, hpv, rfl, hw⟩
  · rintro ⟨pv, hpv, rfl, hv⟩; exact ⟨pv, hpv, v, hv, rfl, rfl⟩

theorem mem_objList {l : List (String × String)} {p v : String} :
    v ∈ (l.filter (·.1 == p)).map (·.2) ↔ (p, v) ∈ l := by
  simp only [List.mem_map, List.mem_filter, beq_iff_eq]
  exact ⟨fun ⟨a, ⟨ha, e⟩, e'⟩ => by rw [← e, ← e']; exact ha, fun h => ⟨_, ⟨h, rfl⟩, rfl⟩⟩

theorem mem_objects (e : Event) (p v : String) : v ∈ e.objects p ↔ (p, v) ∈ e.pairs := by
  unfold Event.objects
  rw [mem_canonS, mem_objList]

theorem objects_canon (e : Event) (p : String) : canonS (e.objects p) = e.objects p := by
  unfold Event.objects; exact canonS_idem _

theorem objects_ext (e₁ e₂ : Event) (p : String)
    (h : ∀ v, (p, v) ∈ e₁.pairs ↔ (p, v) ∈ e₂.pairs) : e₁.objects p = e₂.objects p := by
  rw [← objects_canon e₁, ← objects_canon e₂, canonS_eq_iff]
  intro v
  rw [mem_objects, mem_objects, h v]

theorem objects_absent_pairs (e : Event) (p : String) (h : ∀ pv ∈ e.pairs, pv.1 ≠ p) :
    e.objects p = [] :=
  List.eq_nil_iff_forall_not_mem.mpr fun v hv => h _ ((mem_objects e p v).mp hv) rfl

theorem objects_of_table {σ : Type} (name : σ → String) (val : σ → List String) (l : List σ)
    (hn : (l.map name).Nodup) (e : Event) (he : e.props = l.map fun s => (name s, val s))
    (s : σ) (hs : s ∈ l) : e.objects (name s) = canonS (val s) := by
  rw [← objects_canon, canonS_eq_iff]
  intro v
  rw [mem_objects, mem_pairs, he]
  constructor
  · rintro ⟨_, hpv, hname, hv⟩
    obtain ⟨t, ht, rfl⟩ := List.mem_map.mp hpv
    rwa [nodup_map_inj hn ht hs hname] at hv
  · exact fun hv => ⟨_, List.mem_map.mpr ⟨s, hs, rfl⟩, rfl, hv⟩

theorem mem_firstOccurrences [BEq α] [LawfulBEq α] (a : α) : ∀ (l : List α),
    a ∈ firstOccurrences l ↔ a ∈ l
  | [] => Iff.rfl
  | x :: xs => by
    simp only [firstOccurrences, List.mem_cons, List.mem_filter, mem_firstOccurrences a xs,
      Bool.not_eq_true', beq_eq_false_iff_ne, ne_eq]
    by_cases hax : a = x <;> simp [hax]

theorem nodup_firstOccurrences [BEq α] [LawfulBEq α] : ∀ (l : List α), (firstOccurrences l).Nodup
  | [] => List.nodup_nil
  | x :: xs => by
    refine List.nodup_cons.mpr ⟨fun hm => ?_, (nodup_firstOccurrences xs).filter _⟩
    simpa using (List.mem_filter.mp hm).2

end Edxml
