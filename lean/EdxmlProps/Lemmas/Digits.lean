/-
Decimal notation: the value of a digit string (`natVal`), `str(n)` as a specification
(`renderNat`, `renderInt`), and the recognisers of the generated patterns `([1-9]\d*)|0` and
`(-?[1-9]\d*)|0`, which accept exactly the renderings.

`natVal`, `renderNat` and `isDigit` are core's `Nat.ofDigitChars 10 · 0`, `Nat.toDigits 10` and
`Char.isDigit`, written out in the model (`natVal_eq`, `renderNat_eq`, `isDigit_eq`): value, length, round
trip and that a rendering consists of digits are core's theorems. Core has nothing on notations without
leading zeros; that part is proved here.
-/
import EdxmlModel.DataType.Gate
namespace Edxml.Gate

/-! ### digits -/

theorem charLe_iff (a b : Char) : a ≤ b ↔ a.toNat ≤ b.toNat :=
  UInt32.le_iff_toNat_le

/-- below the surrogate range (U+D800) `Char.ofNat` is the identity -/
theorem toNat_ofNat {n : Nat} (h : n < 0xd800) : (Char.ofNat n).toNat = n := by
  unfold Char.ofNat
  rw [dif_pos (Or.inl h)]
  rfl

theorem isDigit_eq (c : Char) : isDigit c = c.isDigit := rfl

theorem isDigit_iff (c : Char) : isDigit c = true ↔ 48 ≤ c.toNat ∧ c.toNat ≤ 57 := isDigit_eq c ▸ Char.isDigit_iff_toNat

theorem digitChar_eq {d : Nat} (h : d < 10) : digitChar d = d.digitChar := by
  match d, h with
  | 0, _ | 1, _ | 2, _ | 3, _ | 4, _ | 5, _ | 6, _ | 7, _ | 8, _ | 9, _ => rfl
  | n + 10, h => omega

theorem digitChar_toNat {d : Nat} (h : d < 10) : (digitChar d).toNat = 48 + d :=
  digitChar_eq h ▸ Nat.toNat_digitChar_of_lt_ten h

theorem eq_digitChar {c : Char} (h : isDigit c = true) : c = digitChar (c.toNat - 48) := by
  have hc := (isDigit_iff c).mp h
  apply Char.toNat_inj.mp
  rw [digitChar_toNat (by omega)]; omega

theorem isDigit_digitChar {d : Nat} (h : d < 10) : isDigit (digitChar d) = true :=
  isDigit_eq _ ▸ digitChar_eq h ▸ Nat.isDigit_digitChar.trans (decide_eq_true h)

/-! ### the value of a digit string -/

theorem two_digits {m q r : Nat} (h : r < m) : (q * m + r) / m = q ∧ (q * m + r) % m = r := by
  rw [Nat.add_comm, Nat.add_mul_div_right _ _ (by omega), Nat.add_mul_mod_self_right, Nat.div_eq_of_lt h, Nat.mod_eq_of_lt h,
    Nat.zero_add]
  exact ⟨rfl, rfl⟩

theorem two_digits_lt {m a q r : Nat} (hq : q < a) (hr : r < m) : q * m + r < a * m :=
  Nat.lt_of_lt_of_le (Nat.add_lt_add_left hr _) (Nat.succ_mul q m ▸ Nat.mul_le_mul_right m hq)

theorem natVal_eq (cs : List Char) : natVal cs = Nat.ofDigitChars 10 cs 0 := rfl

theorem natVal_append (a b : List Char) : natVal (a ++ b) = natVal a * 10 ^ b.length + natVal b := by
  rw [natVal_eq, Nat.ofDigitChars_append, Nat.ofDigitChars_eq_ofDigitChars_zero, Nat.mul_comm]; rfl

theorem natVal_singleton (c : Char) : natVal [c] = c.toNat - 48 := by simp [natVal]

theorem natVal_snoc (l : List Char) (c : Char) : natVal (l ++ [c]) = 10 * natVal l + (c.toNat - 48) := by
  rw [natVal_append, natVal_singleton, List.length_singleton, Nat.pow_one, Nat.mul_comm]

theorem natVal_cons (c : Char) (r : List Char) : natVal (c :: r) = (c.toNat - 48) * 10 ^ r.length + natVal r := by
  rw [← List.singleton_append, natVal_append, natVal_singleton]

theorem natVal_lt_pow : ∀ (ds : List Char), ds.all isDigit = true → natVal ds < 10 ^ ds.length
  | [], _ => by simp [natVal]
  | c :: r, h => by
    simp only [List.all_cons, Bool.and_eq_true] at h
    have hc := (isDigit_iff c).mp h.1
    rw [natVal_cons, List.length_cons, Nat.pow_succ, Nat.mul_comm _ 10]
    exact two_digits_lt (by omega) (natVal_lt_pow r h.2)

/-- positional notation is unique; `m` and `n` stand for what was read before `a` and `b` -/
theorem ofDigitChars_inj : ∀ (a b : List Char), a.length = b.length → a.all isDigit = true → b.all isDigit = true →
    ∀ m n, Nat.ofDigitChars 10 a m = Nat.ofDigitChars 10 b n → m = n ∧ a = b
  | [], [], _, _, _, _, _, hv => ⟨hv, rfl⟩
  | [], _ :: _, h, _, _, _, _, _ => nomatch h
  | _ :: _, [], h, _, _, _, _, _ => nomatch h
  | x :: a, y :: b, hl, ha, hb, m, n, hv => by
    simp only [List.all_cons, Bool.and_eq_true] at ha hb
    have hx := (isDigit_iff x).mp ha.1
    have hy := (isDigit_iff y).mp hb.1
    obtain ⟨h, rfl⟩ := ofDigitChars_inj a b (Nat.succ.inj hl) ha.2 hb.2 (10 * m + (x.toNat - 48)) (10 * n + (y.toNat - 48)) hv
    obtain ⟨rfl, hxy⟩ : m = n ∧ x.toNat = y.toNat := by omega
    rw [Char.toNat_inj.mp hxy]
    exact ⟨rfl, rfl⟩

theorem natVal_inj {a b : List Char} (hl : a.length = b.length) (ha : a.all isDigit = true) (hb : b.all isDigit = true)
    (h : natVal a = natVal b) : a = b :=
  (ofDigitChars_inj a b hl ha hb 0 0 h).2

/-! ### `str(n)` -/

theorem renderNat_digit {n : Nat} (h : n < 10) : renderNat n = [digitChar n] := by
  rw [renderNat, if_pos h]

theorem renderNat_snoc {q d : Nat} (hq : 1 ≤ q) (hd : d < 10) :
    renderNat (10 * q + d) = renderNat q ++ [digitChar d] := by
  rw [renderNat, if_neg (by omega), Nat.mul_add_div (by decide), Nat.mul_add_mod, Nat.div_eq_of_lt hd, Nat.mod_eq_of_lt hd,
    Nat.add_zero]

theorem renderNat_eq (n : Nat) : renderNat n = Nat.toDigits 10 n := by
  induction n using renderNat.induct with
  | case1 n h => rw [renderNat_digit h, Nat.toDigits_of_lt_base h, digitChar_eq h]
  | case2 n h ih =>
    rw [renderNat, if_neg h, ih, Nat.toDigits_of_base_le (n := n) (by decide) (by omega),
      digitChar_eq (Nat.mod_lt n (by decide))]

theorem natVal_render (n : Nat) : natVal (renderNat n) = n := by
  rw [renderNat_eq]; exact Nat.ofDigitChars_ten_toDigits

/-- `[1-9]\d*` -/
def PosDigits (cs : List Char) : Prop :=
  ∃ c r, cs = c :: r ∧ 49 ≤ c.toNat ∧ c.toNat ≤ 57 ∧ r.all isDigit = true

theorem canonNat_iff (cs : List Char) : canonNat cs = true ↔ cs = ['0'] ∨ PosDigits cs := by
  unfold PosDigits canonNat
  split
  · simp
  · rename_i h
    simp only [Bool.and_eq_true, decide_eq_true_eq, charLe_iff, Char.reduceToNat, List.cons.injEq, and_assoc, exists_and_left,
      exists_eq_left', or_iff_right (not_and.mpr h)]
  · simp

theorem posDigits_render {n : Nat} (hn : 1 ≤ n) : PosDigits (renderNat n) := by
  induction n using renderNat.induct with
  | case1 n h => exact ⟨_, [], renderNat_digit h, by rw [digitChar_toNat h]; omega, by rw [digitChar_toNat h]; omega, rfl⟩
  | case2 n h ih =>
    obtain ⟨c, r, e, h1, h2, h3⟩ := ih (by omega)
    rw [renderNat, if_neg h, e]
    exact ⟨c, r ++ [_], rfl, h1, h2, by simp [h3, isDigit_digitChar (Nat.mod_lt n (by omega : 0 < 10))]⟩

theorem canonNat_render (n : Nat) : canonNat (renderNat n) = true := by
  rcases Nat.eq_zero_or_pos n with rfl | h
  · rw [renderNat_digit (by omega)]; rfl
  · exact (canonNat_iff _).mpr (Or.inr (posDigits_render h))

/-- Reading a numeral without leading zero from the left: `p` is the part already read, which is the
rendering of its own value and not zero; both stay true when the digits `r` are read as well. -/
theorem render_natVal_append : ∀ (r p : List Char), renderNat (natVal p) = p → 1 ≤ natVal p → r.all isDigit = true →
    renderNat (natVal (p ++ r)) = p ++ r ∧ 1 ≤ natVal (p ++ r)
  | [], p, hr, hpos, _ => by simpa using ⟨hr, hpos⟩
  | d :: r, p, hr, hpos, hall => by
    simp only [List.all_cons, Bool.and_eq_true] at hall
    have hd := (isDigit_iff d).mp hall.1
    have := render_natVal_append r (p ++ [d])
      (by rw [natVal_snoc, renderNat_snoc hpos (by omega), hr, ← eq_digitChar hall.1]) (by rw [natVal_snoc]; omega) hall.2
    simpa using this

theorem render_natVal_pos {cs : List Char} (h : PosDigits cs) : renderNat (natVal cs) = cs ∧ 1 ≤ natVal cs := by
  obtain ⟨c, r, rfl, h1, h2, h3⟩ := h
  refine render_natVal_append r [c] ?_ (by rw [natVal_singleton]; omega) h3
  rw [natVal_singleton, renderNat_digit (by omega), ← eq_digitChar ((isDigit_iff c).mpr ⟨by omega, h2⟩)]

theorem render_natVal {cs : List Char} (h : canonNat cs = true) : renderNat (natVal cs) = cs := by
  rcases (canonNat_iff cs).mp h with rfl | hp
  · exact renderNat_digit (n := 0) (by omega)
  · exact (render_natVal_pos hp).1

theorem all_isDigit_render (n : Nat) : (renderNat n).all isDigit = true :=
  List.all_eq_true.mpr fun c hc => isDigit_eq c ▸ Nat.isDigit_of_mem_toDigits (by decide) (by decide) (renderNat_eq n ▸ hc)

theorem render_head (n : Nat) : ∃ c r, renderNat n = c :: r ∧ isDigit c = true := by
  have hall := all_isDigit_render n
  obtain ⟨c, r, e⟩ := List.exists_cons_of_ne_nil (renderNat_eq n ▸ Nat.toDigits_ne_nil : renderNat n ≠ [])
  rw [e, List.all_cons, Bool.and_eq_true] at hall
  exact ⟨c, r, e, hall.1⟩

theorem allDigits_render (n : Nat) : allDigits (renderNat n) = true := by
  obtain ⟨c, r, e, -⟩ := render_head n
  rw [allDigits, all_isDigit_render, e]; rfl

theorem length_render_le (F r : Nat) (hF : 1 ≤ F) (hr : r < 10 ^ F) : (renderNat r).length ≤ F :=
  renderNat_eq r ▸ (Nat.length_toDigits_le_iff (by decide) hF).mpr hr

/-! ### integers -/

theorem not_minus_of_canonNat {cs : List Char} (h : canonNat cs = true) (r : List Char) : cs ≠ '-' :: r := by
  rintro rfl
  rcases (canonNat_iff _).mp h with h0 | ⟨c, r', hc, h1, -⟩
  · cases h0
  · cases hc; revert h1; decide

theorem intVal_of_canonNat {cs : List Char} (h : canonNat cs = true) : intVal cs = (natVal cs : Int) :=
  intVal.eq_2 cs (not_minus_of_canonNat h)

theorem canonInt_of_canonNat {cs : List Char} (h : canonNat cs = true) : canonInt cs = true :=
  (canonInt.eq_2 cs fun c r => not_minus_of_canonNat h (c :: r)).trans h

theorem canonInt_iff (cs : List Char) : canonInt cs = true ↔ canonNat cs = true ∨ ∃ p, cs = '-' :: p ∧ PosDigits p := by
  constructor
  · intro h
    unfold canonInt at h
    split at h
    · rename_i c r
      simp only [Bool.and_eq_true, decide_eq_true_eq, charLe_iff] at h
      exact Or.inr ⟨c :: r, rfl, c, r, rfl, h.1.1, h.1.2, h.2⟩
    · exact Or.inl h
  · rintro (h | ⟨p, rfl, c, r, rfl, h1, h2, h3⟩)
    · exact canonInt_of_canonNat h
    · simp only [canonInt, Bool.and_eq_true, decide_eq_true_eq, charLe_iff]
      exact ⟨⟨h1, h2⟩, h3⟩

theorem canonInt_render (z : Int) : canonInt (renderInt z) = true := by
  unfold renderInt
  split
  · exact (canonInt_iff _).mpr (Or.inr ⟨_, rfl, posDigits_render (by omega)⟩)
  · exact canonInt_of_canonNat (canonNat_render _)

theorem canonNat_renderInt {z : Int} (h : 0 ≤ z) : canonNat (renderInt z) = true := by
  rw [renderInt, if_neg (by omega)]; exact canonNat_render _

theorem intVal_render (z : Int) : intVal (renderInt z) = z := by
  unfold renderInt
  split
  · simp only [intVal, natVal_render]; omega
  · rw [intVal_of_canonNat (canonNat_render _), natVal_render]; omega

theorem render_intVal {cs : List Char} (h : canonInt cs = true) : renderInt (intVal cs) = cs := by
  rcases (canonInt_iff cs).mp h with hn | ⟨p, rfl, hp⟩
  · rw [intVal_of_canonNat hn, renderInt, if_neg (by omega), Int.toNat_natCast, render_natVal hn]
  · have := render_natVal_pos hp
    rw [intVal, renderInt, if_pos (by omega), Int.natAbs_neg, Int.natAbs_natCast, this.1]

end Edxml.Gate
