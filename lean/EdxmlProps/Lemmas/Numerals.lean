/-
Numerals of the normalizers (`EdxmlModel/DataType/Normalize.lean`), on top of `Lemmas/Digits.lean`:
reading back what they render (`parseInt`, `parseDec`), fixed-width digit strings (`padLeft`), and the
gate's verdict on a rendered decimal.
-/
import EdxmlModel.DataType.Normalize
import EdxmlProps.Lemmas.Digits
-- This file and C13 also compile without this import, but then `10 ^ k` on `Nat` elaborates to core's
-- `Nat.pow` instance instead of Mathlib's `Monoid.npow`: `fracDigits` and the statements of C13 about
-- decimals are then other terms than what a user next to Mathlib writes.
import Mathlib.Algebra.Group.Nat.Defs
namespace Edxml.Gate
open Edxml.Norm

/-! ### signs -/

theorem splitSign_digit {c : Char} (r : List Char) (hd : isDigit c = true) : splitSign (c :: r) = (false, c :: r) :=
  splitSign.eq_3 _ (fun _ e => by cases e; exact absurd hd (by decide)) (fun _ e => by cases e; exact absurd hd (by decide))

theorem splitMinus_digit {c : Char} (r : List Char) (hd : isDigit c = true) : splitMinus (c :: r) = (false, c :: r) :=
  splitMinus.eq_2 _ fun _ e => by cases e; exact absurd hd (by decide)

theorem parseInt_renderNat (n : Nat) : parseInt (renderNat n) = some (n : Int) := by
  have : splitSign (renderNat n) = (false, renderNat n) := by
    obtain ⟨c, r, h, hd⟩ := render_head n
    rw [h]; exact splitSign_digit r hd
  simp only [parseInt, this, allDigits_render, natVal_render, if_true, Bool.false_eq_true, if_false]

theorem parseInt_renderInt (z : Int) : parseInt (renderInt z) = some z := by
  unfold renderInt
  split
  · simp only [parseInt, splitSign, allDigits_render, natVal_render, if_true]
    congr 1; omega
  · rw [parseInt_renderNat]; congr 1; omega

/-! ### fixed-width digit strings -/

theorem natVal_eq_zero {cs : List Char} (h : ∀ c ∈ cs, c = '0') : natVal cs = 0 := by
  rw [List.eq_replicate_iff.mpr ⟨rfl, h⟩, natVal_eq, Nat.ofDigitChars_replicate_zero, Nat.mul_zero]

theorem padLeft_length {F : Nat} {cs : List Char} (h : cs.length ≤ F) : (padLeft F cs).length = F := by
  unfold padLeft; simp only [List.length_append, List.length_replicate]; omega

theorem padLeft_all {F : Nat} {cs : List Char} (h : cs.all isDigit = true) : (padLeft F cs).all isDigit = true := by
  simp only [padLeft, List.all_append, h, Bool.and_true, List.all_eq_true, List.mem_replicate]
  rintro c ⟨_, rfl⟩; rfl

theorem natVal_padLeft (F : Nat) (cs : List Char) : natVal (padLeft F cs) = natVal cs := by
  rw [padLeft, natVal_append, natVal_eq_zero (fun c hc => (List.mem_replicate.mp hc).2), Nat.zero_mul, Nat.zero_add]

theorem pad_eq_iff {k v : Nat} {ds : List Char} (hk : 1 ≤ k) :
    v < 10 ^ k ∧ pad k v = ds ↔ ds.length = k ∧ ds.all isDigit = true ∧ natVal ds = v := by
  have fwd {v : Nat} (hv : v < 10 ^ k) : (pad k v).length = k ∧ (pad k v).all isDigit = true ∧ natVal (pad k v) = v :=
    ⟨padLeft_length (length_render_le k v hk hv), padLeft_all (all_isDigit_render v), by rw [pad, natVal_padLeft, natVal_render]⟩
  constructor
  · rintro ⟨hv, rfl⟩
    exact fwd hv
  · rintro ⟨rfl, hd, rfl⟩
    have hv := natVal_lt_pow ds hd
    exact ⟨hv, natVal_inj (fwd hv).1 (fwd hv).2.1 hd (fwd hv).2.2⟩

/-- the fractional digits of the rendering of `n / 10^F` -/
def fracDigits (F n : Nat) : List Char := if F = 0 then [] else padLeft F (renderNat (n % 10 ^ F))

theorem fracDigits_spec (F n : Nat) :
    (fracDigits F n).length = F ∧ (fracDigits F n).all isDigit = true ∧ natVal (fracDigits F n) = n % 10 ^ F := by
  unfold fracDigits
  split
  · rename_i h; subst h; simp [natVal, Nat.mod_one]
  · exact (pad_eq_iff (by omega)).mp ⟨Nat.mod_lt _ (Nat.pow_pos (by omega)), rfl⟩

/-! ### rendered decimals -/

/-- what `renderScaled` writes after the integral part -/
def fracTail (F n : Nat) : List Char := if F = 0 then [] else '.' :: fracDigits F n

theorem fracTail_zero (n : Nat) : fracTail 0 n = [] := rfl

theorem fracTail_succ (F n : Nat) : fracTail (F + 1) n = '.' :: fracDigits (F + 1) n := rfl

theorem renderScaled_eq (F : Nat) (neg : Bool) (n : Nat) :
    renderScaled F neg n = (if neg && n != 0 then ['-'] else []) ++ (renderNat (n / 10 ^ F) ++ fracTail F n) := by
  unfold renderScaled fracTail fracDigits
  by_cases hF : F = 0 <;> simp [hF]

theorem span_isDigit {l t : List Char} (hl : l.all isDigit = true) (ht : ∀ c ∈ t.head?, isDigit c = false) :
    (l ++ t).takeWhile isDigit = l ∧ (l ++ t).dropWhile isDigit = t := by
  rw [List.takeWhile_append_of_pos (List.all_eq_true.mp hl), List.dropWhile_append_of_pos (List.all_eq_true.mp hl)]
  cases t with
  | nil => simp
  | cons c t => simp [ht c rfl]

theorem span_render_fracTail (q F n : Nat) :
    (renderNat q ++ fracTail F n).takeWhile isDigit = renderNat q ∧ (renderNat q ++ fracTail F n).dropWhile isDigit = fracTail F n := by
  refine span_isDigit (all_isDigit_render q) ?_
  cases F with
  | zero => simp [fracTail_zero]
  | succ F => rw [fracTail_succ]; rintro c ⟨⟩; rfl

theorem fracOf_fracTail (F n : Nat) : fracOf F (fracTail F n) = some (fracDigits F n) := by
  cases F with
  | zero => rfl
  | succ F => simp only [fracTail_succ, fracOf, fracDigits_spec, beq_self_eq_true, Bool.and_self, if_true]

theorem natVal_scaled (F n : Nat) : natVal (renderNat (n / 10 ^ F) ++ fracDigits F n) = n := by
  rw [natVal_append, natVal_render, (fracDigits_spec F n).2.2, (fracDigits_spec F n).1]
  exact Nat.div_add_mod' n (10 ^ F)

theorem any_nonzero_digits (F n : Nat) (hn : n ≠ 0) :
    (renderNat (n / 10 ^ F) ++ fracDigits F n).any (· != '0') = true := by
  cases h : (renderNat (n / 10 ^ F) ++ fracDigits F n).any (· != '0') with
  | true => rfl
  | false =>
    rw [List.any_eq_false] at h
    exact absurd ((natVal_scaled F n).symm.trans (natVal_eq_zero fun c hc => by simpa using h c hc)) hn

/-- `splitMinus` and `splitSign` alike take the sign off a rendered decimal -/
theorem sign_renderScaled {f : List Char → Bool × List Char} (hm : ∀ r, f ('-' :: r) = (true, r))
    (hd : ∀ {c} r, isDigit c = true → f (c :: r) = (false, c :: r)) (F : Nat) (neg : Bool) (n : Nat) :
    f (renderScaled F neg n) = (neg && n != 0, renderNat (n / 10 ^ F) ++ fracTail F n) := by
  obtain ⟨c, r, hr, hc⟩ := render_head (n / 10 ^ F)
  rw [renderScaled_eq]
  split
  · rename_i h; rw [h]; exact hm _
  · rename_i h; rw [Bool.not_eq_true] at h; rw [h, List.nil_append, hr, List.cons_append, hd _ hc]

/-- C13/C03: the gate accepts the decimal that `normDecimalOf` renders (`renderScaled`) iff a sign is
written only for a signed type and the digits fit `totalDigits`; C03 has no other statement on decimals. -/
theorem renderScaled_accepted_iff (T F : Nat) (signed neg : Bool) (n : Nat) :
    acceptsDecimal T F signed (renderScaled F neg n) = true ↔
      ((neg = true ∧ n ≠ 0) → signed = true) ∧ totalDigits (renderNat (n / 10 ^ F)) (fracDigits F n) ≤ T := by
  simp only [acceptsDecimal, sign_renderScaled (fun _ => rfl) splitMinus_digit, span_render_fracTail, fracOf_fracTail, canonNat_render, Bool.true_and,
    Bool.and_eq_true, decide_eq_true_eq]
  by_cases hn : n = 0
  · simp [hn]
  · cases neg <;> simp [hn, any_nonzero_digits F n hn]

theorem parseDec_renderScaled (F : Nat) (neg : Bool) (n : Nat) :
    parseDec (renderScaled F neg n) = some (neg && n != 0, n, -(F : Int)) := by
  have hne : (renderNat (n / 10 ^ F)).isEmpty = false := by
    obtain ⟨c, r, hr, -⟩ := render_head (n / 10 ^ F)
    rw [hr]; rfl
  have hv := natVal_scaled F n
  simp only [parseDec, sign_renderScaled (fun _ => rfl) splitSign_digit, span_render_fracTail]
  rcases F with _ | F
  · simp only [fracDigits, if_true, List.append_nil, Nat.pow_zero, Nat.div_one] at hv hne
    simp [fracTail_zero, hne, hv]
  · have hf := span_isDigit (fracDigits_spec (F + 1) n).2.1 (t := []) (by simp)
    rw [List.append_nil] at hf
    simp [fracTail_succ, hne, hf, hv, fracDigits_spec]

end Edxml.Gate
