/-
Reading the sticky hash input (`EdxmlModel/Event/Hash.lean`) back: a byte string splits in one way
at the first occurrence of a byte, so `joinSep` and `objString` are injective on items that do not
contain the separating byte.
-/
import EdxmlModel.Event.Hash
import EdxmlProps.Lemmas.Utf8
namespace Edxml

theorem split_first_cons {c : UInt8} {a a' r r' : Bytes} (ha : c ∉ a) (ha' : c ∉ a')
    (h : a ++ c :: r = a' ++ c :: r') : a = a' ∧ r = r' := by
  have before {a r} (ha : c ∉ a) : (a ++ c :: r).takeWhile (fun b => decide (b ≠ c)) = a := by
    rw [List.takeWhile_append_of_pos fun b hb => decide_eq_true (p := b ≠ c) fun e => ha (e ▸ hb),
      List.takeWhile_cons_of_neg (by simp), List.append_nil]
  obtain rfl : a = a' := by rw [← before ha, h, before ha']
  exact ⟨rfl, (List.cons.inj (List.append_cancel_left h)).2⟩

theorem sepItems_inj {c : UInt8} {s : Bytes} {l₁ l₂ : List Bytes}
    (h1 : ∀ x ∈ l₁, c ∉ x) (h2 : ∀ x ∈ l₂, c ∉ x)
    (h : l₁.flatMap (· ++ c :: s) = l₂.flatMap (· ++ c :: s)) : l₁ = l₂ := by
  induction l₁ generalizing l₂ with
  | nil => cases l₂ with | nil => rfl | cons => simp at h
  | cons x l₁ ih =>
    cases l₂ with
    | nil => simp at h
    | cons y l₂ =>
      rw [List.flatMap_cons, List.flatMap_cons, List.append_assoc, List.append_assoc] at h
      obtain ⟨rfl, ht⟩ := split_first_cons (h1 x List.mem_cons_self) (h2 y List.mem_cons_self) h
      rw [ih (fun z hz => h1 z (.tail _ hz)) (fun z hz => h2 z (.tail _ hz)) (List.append_cancel_left ht)]

theorem joinSep_append (sep x : Bytes) (l : List Bytes) :
    joinSep sep (x :: l) ++ sep = (x :: l).flatMap (· ++ sep) := by
  induction l generalizing x with
  | nil => simp [joinSep]
  | cons y l ih => simp [joinSep, ← ih]

theorem joinSep_ne_nil {sep x : Bytes} (l : List Bytes) (hx : x ≠ []) : joinSep sep (x :: l) ≠ [] := by
  cases l <;> simp [joinSep, hx]

/-- The items must be non-empty, as `joinSep sep [] = joinSep sep [[]]`. -/
theorem joinSep_inj {c : UInt8} {s : Bytes} {l₁ l₂ : List Bytes}
    (h1 : ∀ x ∈ l₁, x ≠ [] ∧ c ∉ x) (h2 : ∀ x ∈ l₂, x ≠ [] ∧ c ∉ x)
    (h : joinSep (c :: s) l₁ = joinSep (c :: s) l₂) : l₁ = l₂ := by
  cases l₁ with
  | nil =>
    cases l₂ with
    | nil => rfl
    | cons y l₂ => exact absurd h.symm (joinSep_ne_nil l₂ (h2 y List.mem_cons_self).1)
  | cons x l₁ =>
    cases l₂ with
    | nil => exact absurd h (joinSep_ne_nil l₁ (h1 x List.mem_cons_self).1)
    | cons y l₂ =>
      -- with a separator behind the last item too, every item ends at the first `c`
      refine sepItems_inj (s := s) (fun z hz => (h1 z hz).2) (fun z hz => (h2 z hz).2) ?_
      rw [← joinSep_append, ← joinSep_append, h]

theorem objString_ne_nil (p v : String) : objString p v ≠ [] := by
  simp [objString]

theorem objString_no_ff (p v : String) : (0xFF : UInt8) ∉ objString p v := by
  simp [objString, utf8_no_ff]

theorem objString_inj {p v p' v' : String} (hp : ':' ∉ p.toList) (hp' : ':' ∉ p'.toList)
    (h : objString p v = objString p' v') : p = p' ∧ v = v' := by
  simp only [objString, List.append_assoc, List.cons_append, List.nil_append] at h
  have s := split_first_cons (c := (0x3A : UInt8)) (ascii_not_mem_utf8 (c := ':') (by decide) hp)
    (ascii_not_mem_utf8 (c := ':') (by decide) hp') h
  exact ⟨utf8_injective _ _ s.1, utf8_injective _ _ s.2⟩

end Edxml
