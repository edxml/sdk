/-
The proleptic Gregorian calendar of the datetime model (`daysFromCivil`, `civilFromDays`): the two
conversions are inverse to each other, and what `civilFromDays` yields is a date of the calendar.

A day number has four parameters, `z + 719468 = era * 146097 + yearStart yoe + doy` with
`monthStart mp ≤ doy < monthStart (mp + 1)` (400 year era, year of the era, day of the year, month
counted from March), and each conversion has a closed form on them (`daysFromCivil_eq`,
`civilFromDays_eq`). The one step that is not linear arithmetic is that the year-of-era formula of
`civilFromDays` finds the year (`yearOfEra_iff`). The start functions are definitions so that `omega`
meets them as atoms and unfolds them only where a floor is reasoned about.
-/
import EdxmlModel.DataType.Normalize
namespace Edxml.Norm

def leapYear (y : Int) : Bool := y % 4 == 0 && (y % 100 != 0 || y % 400 == 0)

def daysInMonth (y m : Int) : Int :=
  if m = 2 then (if leapYear y then 29 else 28)
  else if m = 4 ∨ m = 6 ∨ m = 9 ∨ m = 11 then 30 else 31

/-- a date of the proleptic Gregorian calendar -/
def validDate (y m d : Int) : Prop := 1 ≤ m ∧ m ≤ 12 ∧ 1 ≤ d ∧ d ≤ daysInMonth y m

/-- minutes since the epoch of a UTC date and time of day -/
def instantMin (y mo d h mi : Int) : Int := (daysFromCivil y mo d * 24 + h) * 60 + mi

theorem leapYear_iff (y : Int) : leapYear y = true ↔ y % 4 = 0 ∧ (y % 100 ≠ 0 ∨ y % 400 = 0) := by
  simp [leapYear]

def yearLen (y : Int) : Int := if leapYear y then 366 else 365

theorem yearLen_le (y : Int) : 365 ≤ yearLen y ∧ yearLen y ≤ 366 := by
  unfold yearLen; split <;> decide

theorem leapYear_emod (y : Int) : leapYear (y % 400) = leapYear y := by
  simp +decide only [leapYear, Int.emod_emod_of_dvd]

/-! ### the year of the era -/

/-- days of an era before its year `y`; a year begins on March 1st, so that a leap day ends it -/
def yearStart (y : Int) : Int := 365 * y + y / 4 - y / 100

/-- a day of the era without the leap days before it: what is left counts 365 days a year -/
def unleap (n : Int) : Int := n - n / 1460 + n / 36524 - n / 146096

theorem unleap_mono {n m : Int} (h : n ≤ m) : unleap n ≤ unleap m := by
  have h4 : n - n / 1460 ≤ m - m / 1460 := by omega
  -- where `n / 146096` steps down, `n / 36524` steps up: 146096 = 4 * 36524
  have h100 : n / 36524 - n / 146096 ≤ m / 36524 - m / 146096 := by omega
  unfold unleap; omega

/-- at the start of a year the three quotients are exactly the leap days gone by -/
theorem unleap_yearStart {y : Int} (h0 : 0 ≤ y) (h1 : y ≤ 399) : unleap (yearStart y) = 365 * y := by
  generalize hn : yearStart y = n
  unfold yearStart at hn
  have e4 : n / 1460 = y / 4 := by omega
  have e100 : n / 36524 = y / 100 := by omega
  have e400 : n / 146096 = 0 := by omega
  unfold unleap; omega

theorem unleap_yearEnd {y : Int} (h0 : 1 ≤ y) (h1 : y ≤ 399) : unleap (yearStart y - 1) < 365 * y := by
  generalize hn : yearStart y - 1 = n
  unfold yearStart at hn
  have e4 : y / 4 ≤ n / 1460 := by omega
  have e100 : n / 36524 ≤ y / 100 := by omega
  have e400 : 0 ≤ n / 146096 := by omega
  unfold unleap; omega

/-- year `y` of an era ends with the February of a civil year `y + 1` modulo 400, and the era with
the leap day of its last year -/
theorem yearStart_succ {y : Int} (e : Int) (h0 : 0 ≤ y) (h1 : y ≤ 399) :
    yearStart y + yearLen (y + e * 400 + 1) = if y = 399 then 146097 else yearStart (y + 1) := by
  rw [yearLen, ← leapYear_emod, Int.add_right_comm, Int.add_mul_emod_self_right, leapYear_emod]
  by_cases h : y = 399
  · subst h; decide
  · simp only [yearStart, leapYear_iff, h, if_false]
    omega

/-- the year-of-era formula of `civilFromDays` yields `y` exactly on the days of year `y` of the era:
`unleap` is monotone, is `365 * y` on the first day of year `y` and below `365 * (y + 1)` on its last. -/
theorem yearOfEra_iff {n y e : Int} :
    (0 ≤ n ∧ n ≤ 146096) ∧ unleap n / 365 = y ↔
      (0 ≤ y ∧ y ≤ 399) ∧ yearStart y ≤ n ∧ n < yearStart y + yearLen (y + e * 400 + 1) := by
  have e1 : unleap 146096 = 365 * 399 + 364 := by decide
  constructor
  · rintro ⟨⟨h0, h1⟩, hy⟩
    have hlo := unleap_mono h0
    have hhi := unleap_mono h1
    have e0 : unleap 0 = 0 := by decide
    have y0 : 0 ≤ y := by omega
    have y1 : y ≤ 399 := by omega
    rw [yearStart_succ e y0 y1]
    refine ⟨⟨y0, y1⟩, Int.not_lt.mp fun hlt => ?_, ?_⟩
    · have y2 : 1 ≤ y := by unfold yearStart at hlt; omega
      have hm := unleap_mono (show n ≤ yearStart y - 1 by omega)
      have he := unleap_yearEnd y2 y1
      omega
    · split
      · omega
      · refine Int.not_le.mp fun hge => ?_
        have hm := unleap_mono hge
        have hs := unleap_yearStart (y := y + 1) (by omega) (by omega)
        omega
  · rintro ⟨⟨y0, y1⟩, hlo, hhi⟩
    rw [yearStart_succ e y0 y1] at hhi
    have hm := unleap_mono hlo
    have hs := unleap_yearStart y0 y1
    have n0 : 0 ≤ n := by unfold yearStart at hlo; omega
    have n1 : n ≤ 146096 := by unfold yearStart at hhi; omega
    have hm' := unleap_mono n1
    split at hhi
    · omega
    · have hm' := unleap_mono (show n ≤ yearStart (y + 1) - 1 by omega)
      have he := unleap_yearEnd (y := y + 1) (by omega) (by omega)
      omega

/-! ### the same on the natural numbers, as a check that can be run -/

/-- for a day of a 400 year era: the year-of-era formula of `civilFromDays` finds the year whose days
contain it -/
def eraCheck (n : Nat) : Bool :=
  let yoe := (n - n / 1460 + n / 36524 - n / 146096) / 365
  let base := 365 * yoe + yoe / 4 - yoe / 100
  Nat.ble base n && Nat.ble (n - base) 365 && Nat.ble yoe 399 &&
    (Nat.ble (n - base) 364 || ((yoe + 1) % 4 == 0 && ((yoe + 1) % 100 != 0 || yoe == 399)))

def allBelow (f : Nat → Bool) : Nat → Bool
  | 0 => true
  | n + 1 => f n && allBelow f n

theorem allBelow_of_forall (f : Nat → Bool) : ∀ n, (∀ k, k < n → f k = true) → allBelow f n = true
  | 0, _ => rfl
  | n + 1, h => by
    rw [allBelow, h n (Nat.lt_succ_self n), allBelow_of_forall f n fun k hk => h k (Nat.lt_succ_of_lt hk)]
    rfl

theorem eraCheck_of_lt {n : Nat} (hn : n < 146097) : eraCheck n = true := by
  simp only [eraCheck, Bool.and_eq_true, Bool.or_eq_true, Nat.ble_eq, beq_iff_eq, bne_iff_ne]
  generalize hy : (n - n / 1460 + n / 36524 - n / 146096) / 365 = y
  have hc : unleap n / 365 = y := by
    -- the subtractions do not truncate
    have h1 := Nat.div_le_self n 1460
    have h2 : n / 146096 ≤ n / 36524 := Nat.div_le_div_left (by decide) (by decide)
    unfold unleap; omega
  obtain ⟨_, hlo, hhi⟩ := (yearOfEra_iff (e := 0)).mp ⟨⟨by omega, by omega⟩, hc⟩
  clear hy hc
  have h3 : y / 100 ≤ y / 4 := Nat.div_le_div_left (by decide) (by decide)
  simp only [yearStart, yearLen, leapYear_iff] at hlo hhi
  omega

theorem eraCheck_all : allBelow eraCheck 146097 = true :=
  allBelow_of_forall eraCheck 146097 fun _ hk => eraCheck_of_lt hk

/-! ### days ↔ dates -/

/-- day of the year on which month `mp`, counted from March, begins -/
def monthStart (mp : Int) : Int := (153 * mp + 2) / 5

/-- the civil number of month `mp`; January and February are of the next civil year -/
def civilMonth (mp : Int) : Int := if mp < 10 then mp + 3 else mp - 9

/-- The twelve months of the year `yy` that begins in March, in a leap year and in a common year:
a month ends where the month formula has the next one begin, and February where the year does. -/
theorem monthEnd {mp : Int} (hmp : 0 ≤ mp ∧ mp ≤ 11) (yy : Int) :
    monthStart mp + daysInMonth (if civilMonth mp ≤ 2 then yy + 1 else yy) (civilMonth mp) =
      min (monthStart (mp + 1)) (yearLen (yy + 1)) := by
  obtain ⟨k, rfl⟩ := Int.eq_ofNat_of_zero_le hmp.1
  have hk : k < 12 := by omega
  unfold daysInMonth yearLen
  rw [apply_ite leapYear]
  generalize leapYear yy = b'
  generalize leapYear (yy + 1) = b
  clear hmp
  revert b b'
  revert k
  decide +kernel

section
variable {era yoe mp doy : Int} (hera : 0 ≤ era) (hyoe : 0 ≤ yoe ∧ yoe ≤ 399) (hmp : 0 ≤ mp ∧ mp ≤ 11)
include hera hyoe hmp

theorem daysFromCivil_eq :
    daysFromCivil (if civilMonth mp ≤ 2 then yoe + era * 400 + 1 else yoe + era * 400) (civilMonth mp)
      (doy - monthStart mp + 1) = era * 146097 + (yearStart yoe + doy) - 719468 := by
  have hm : (civilMonth mp + 9) % 12 = mp := by unfold civilMonth; omega
  generalize civilMonth mp = m at hm ⊢
  have h0 : yoe + era * 400 ≥ 0 := by omega
  have hq : (yoe + era * 400) / 400 = era := by omega
  have hd : (153 * mp + 2) / 5 + (doy - (153 * mp + 2) / 5 + 1) - 1 = doy := by omega
  by_cases hc : m ≤ 2 <;>
    simp only [daysFromCivil, hc, if_true, if_false, Int.add_sub_cancel, hm, h0, hq, hd, yearStart, monthStart,
      Int.mul_comm yoe 365]

theorem civilFromDays_eq (hm : monthStart mp ≤ doy ∧ doy < monthStart (mp + 1))
    (hy : doy < yearLen (yoe + era * 400 + 1)) :
    civilFromDays (era * 146097 + (yearStart yoe + doy) - 719468) =
      (if civilMonth mp ≤ 2 then yoe + era * 400 + 1 else yoe + era * 400, civilMonth mp, doy - monthStart mp + 1) := by
  have hM : (5 * doy + 2) / 153 = mp ∧ 0 ≤ doy := by unfold monthStart at hm; omega
  generalize hDoe : yearStart yoe + doy = doe
  obtain ⟨hdoe, hY⟩ := (yearOfEra_iff (n := doe) (e := era)).mpr ⟨hyoe, by omega, by omega⟩
  have e1 : era * 146097 + doe ≥ 0 := by omega
  have e2 : (era * 146097 + doe) / 146097 = era := by omega
  have e3 : era * 146097 + doe - era * 146097 = doe := by omega
  have e4 : doe - (365 * yoe + yoe / 4 - yoe / 100) = doy := by unfold yearStart at hDoe; omega
  unfold unleap at hY
  simp only [civilFromDays, Int.sub_add_cancel, e1, if_true, e2, e3, hY, e4, hM.1]
  rfl

end

/-- days → date: from 0000-03-01 (day -719468) on, a date of the calendar, on that day -/
theorem civilFromDays_spec {z y m d : Int} (hz : -719468 ≤ z) (h : civilFromDays z = (y, m, d)) :
    validDate y m d ∧ daysFromCivil y m d = z := by
  obtain ⟨era, doe, rfl, hdoe, hera⟩ :
      ∃ era doe, z = era * 146097 + doe - 719468 ∧ (0 ≤ doe ∧ doe ≤ 146096) ∧ 0 ≤ era :=
    ⟨(z + 719468) / 146097, (z + 719468) % 146097, by omega, by omega, by omega⟩
  obtain ⟨hyoe, hlo, hhi⟩ := (yearOfEra_iff (e := era)).mp ⟨hdoe, rfl⟩
  generalize unleap doe / 365 = yoe at hyoe hlo hhi
  obtain ⟨doy, rfl⟩ : ∃ doy, doe = yearStart yoe + doy := ⟨doe - yearStart yoe, by omega⟩
  generalize hM : (5 * doy + 2) / 153 = mp
  obtain ⟨hmp, hm⟩ : (0 ≤ mp ∧ mp ≤ 11) ∧ monthStart mp ≤ doy ∧ doy < monthStart (mp + 1) := by
    have := yearLen_le (yoe + era * 400 + 1)
    unfold monthStart; omega
  rw [civilFromDays_eq hera hyoe hmp hm (by omega)] at h
  cases h
  have hend := monthEnd hmp (yoe + era * 400)
  have hM : 1 ≤ civilMonth mp ∧ civilMonth mp ≤ 12 := by unfold civilMonth; omega
  exact ⟨⟨hM.1, hM.2, by omega, by omega⟩, daysFromCivil_eq hera hyoe hmp⟩

theorem civilFromDays_daysFromCivil (y m d : Int) (hy : 1 ≤ y) (hv : validDate y m d) :
    civilFromDays (daysFromCivil y m d) = (y, m, d) := by
  obtain ⟨hm1, hm2, hd1, hd2⟩ := hv
  obtain ⟨mp, hmp, rfl⟩ : ∃ mp, (0 ≤ mp ∧ mp ≤ 11) ∧ m = civilMonth mp :=
    ⟨(m + 9) % 12, by omega, by unfold civilMonth; omega⟩
  obtain ⟨era, yoe, hera, hyoe, rfl⟩ : ∃ era yoe, 0 ≤ era ∧ (0 ≤ yoe ∧ yoe ≤ 399) ∧
      y = if civilMonth mp ≤ 2 then yoe + era * 400 + 1 else yoe + era * 400 :=
    ⟨(if civilMonth mp ≤ 2 then y - 1 else y) / 400, (if civilMonth mp ≤ 2 then y - 1 else y) % 400,
      by omega, by omega, by omega⟩
  obtain ⟨doy, rfl⟩ : ∃ doy, d = doy - monthStart mp + 1 := ⟨monthStart mp + d - 1, by omega⟩
  have hend := monthEnd hmp (yoe + era * 400)
  rw [daysFromCivil_eq hera hyoe hmp, civilFromDays_eq hera hyoe hmp (by omega) (by omega)]

/-- Before 0000-03-01 the model's conversions are a day off: their `- 146096` and `- 399` branches
presume a division that truncates, and `/` floors. Nothing rests on them there (the theorems above
ask for `-719468 ≤ z` and `1 ≤ y`); this fences those days off: the year that comes out is below 1000,
and such dates are not normalised. The era is at most -1 and comes out up to one too low, so the day of
the era is at most `2 * 146097 - 1 = 292193`, where `unleap` is `365 * 800 - 1`: a year of era below 800. -/
theorem civilFromDays_early {z y m d : Int} (hz : z < -719468) (h : civilFromDays z = (y, m, d)) : y < 1000 := by
  simp only [civilFromDays, show ¬ (z + 719468 ≥ 0) by omega, if_false, Prod.mk.injEq] at h
  obtain ⟨rfl, -, -⟩ := h
  generalize hE : (z + 719468 - 146096) / 146097 = era
  generalize hD : z + 719468 - era * 146097 = doe
  have hera : era ≤ -1 := by omega
  have hdoe : unleap doe ≤ unleap 292193 := unleap_mono (by omega)
  have e : unleap 292193 = 365 * 800 - 1 := by decide
  generalize hY : (doe - doe / 1460 + doe / 36524 - doe / 146096) / 365 = yoe
  replace hY : unleap doe / 365 = yoe := hY
  omega

/-! ### the gate's calendar on the natural numbers -/

section
open Edxml.Gate

theorem leapYear_eq_isLeap (y : Nat) : leapYear (y : Int) = isLeap y := by
  rw [Bool.eq_iff_iff, leapYear_iff]
  simp only [isLeap, Bool.or_eq_true, Bool.and_eq_true, beq_iff_eq, bne_iff_ne]
  omega

theorem daysInMonth_natCast (y m : Nat) : daysInMonth y m = daysIn y m := by
  simp only [daysInMonth, daysIn, leapYear_eq_isLeap, beq_iff_eq, Bool.or_eq_true, or_assoc,
    apply_ite (Nat.cast (R := Int))]
  norm_cast

theorem validDate_nat (y m d : Nat) (h : validDate y m d) : 1 ≤ m ∧ m ≤ 12 ∧ 1 ≤ d ∧ d ≤ daysIn y m := by
  obtain ⟨h1, h2, h3, h4⟩ := h
  rw [daysInMonth_natCast] at h4
  omega

end

end Edxml.Norm
