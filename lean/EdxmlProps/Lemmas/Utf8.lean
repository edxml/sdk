/-
Facts about the model's UTF-8 encoder: its bytes are the ASCII characters themselves or lie in
0x80..0xF7 (so none is 0xFF), and it is core's encoder written out (`utf8Char_eq`): `utf8 s` holds the
bytes of `s` itself and so determines it.
-/
import EdxmlModel.Basic.Bytes
namespace Edxml

theorem u8_ofNat_toNat {a : Nat} (ha : a < 256) : (UInt8.ofNat a).toNat = a :=
  UInt8.toNat_ofNat_of_lt' ha

theorem char_lt (c : Char) : c.toNat < 0x110000 := by
  have := c.valid
  rcases this with h | ⟨_, h⟩
  · show c.val.toNat < _; omega
  · show c.val.toNat < _; omega

theorem utf8Char_byte (c : Char) : ∀ b ∈ utf8Char c,
    b.toNat = c.toNat ∧ c.toNat < 0x80 ∨ 0x80 ≤ b.toNat ∧ b.toNat < 0xF8 := by
  -- a byte that holds one of `room` values `q` above `base`, in front of bytes `l` that are in range
  have high {q : Nat} (base room : Nat) (hq : q < room) (hb : 0x80 ≤ base ∧ base + room ≤ 0xF8)
      {l : Bytes} {P : UInt8 → Prop} (hl : ∀ b ∈ l, P b ∨ 0x80 ≤ b.toNat ∧ b.toNat < 0xF8) :
      ∀ b ∈ UInt8.ofNat (base + q) :: l, P b ∨ 0x80 ≤ b.toNat ∧ b.toNat < 0xF8 := by
    refine List.forall_mem_cons.mpr ⟨.inr ?_, hl⟩
    rw [u8_ofNat_toNat (by omega)]; omega
  have cont (q : Nat) {l : Bytes} {P : UInt8 → Prop} :=
    high (q := q % 64) (l := l) (P := P) 0x80 64 (Nat.mod_lt q (by decide)) (by decide)
  unfold utf8Char
  show ∀ b ∈ ite _ _ _, _
  split
  next h => exact List.forall_mem_singleton.mpr (.inl ⟨u8_ofNat_toNat (Nat.lt_trans h (by decide)), h⟩)
  split
  next h => exact high 0xC0 32 (Nat.div_lt_of_lt_mul (n := 64) h) (by decide) (cont _ nofun)
  split
  next h => exact high 0xE0 16 (Nat.div_lt_of_lt_mul (n := 4096) h) (by decide) (cont _ (cont _ nofun))
  exact high 0xF0 8 (Nat.div_lt_of_lt_mul (n := 262144) (Nat.lt_trans (char_lt c) (by decide))) (by decide)
    (cont _ (cont _ (cont _ nofun)))

theorem utf8_byte (s : String) : ∀ b ∈ utf8 s,
    (∃ c ∈ s.toList, b.toNat = c.toNat ∧ c.toNat < 0x80) ∨ 0x80 ≤ b.toNat ∧ b.toNat < 0xF8 := by
  intro b hb
  obtain ⟨c, hc, hbc⟩ := List.mem_flatMap.mp hb
  exact (utf8Char_byte c b hbc).imp_left fun h => ⟨c, hc, h⟩

theorem utf8_no_ff (s : String) : (0xFF : UInt8) ∉ utf8 s := by
  intro h
  rcases utf8_byte s _ h with ⟨c, _, e, hc⟩ | ⟨_, h⟩
  · rw [← e] at hc; exact absurd hc (by decide)
  · exact absurd h (by decide)

theorem ascii_not_mem_utf8 {s : String} {c : Char} (hc : c.toNat < 0x80) (hs : c ∉ s.toList) :
    UInt8.ofNat c.toNat ∉ utf8 s := by
  intro h
  have hb := u8_ofNat_toNat (a := c.toNat) (by omega)
  rcases utf8_byte s _ h with ⟨d, hd, e, _⟩ | ⟨h, _⟩
  · exact hs (Char.toNat_inj.mp (hb ▸ e) ▸ hd)
  · omega

/-- `utf8Char` is core's encoder. Core takes the payload of a lead byte modulo the room it has there,
which the range of `c` makes idle, and writes the summands the other way round. -/
theorem utf8Char_eq (c : Char) : utf8Char c = String.utf8EncodeChar c := by
  have top : c.val.toNat < 262144 * 8 := Nat.lt_trans (char_lt c) (by decide)
  refine ite_congr (propext Nat.lt_succ_iff) (fun _ => rfl) fun _ => ?_
  refine ite_congr (propext Nat.lt_succ_iff) (fun h => ?_) fun _ => ?_
  · rw [Nat.mod_eq_of_lt (Nat.div_lt_of_lt_mul (n := 64) (Nat.lt_succ_of_le h)), Nat.add_comm _ 192,
      Nat.add_comm _ 128]; rfl
  refine ite_congr (propext Nat.lt_succ_iff) (fun h => ?_) fun _ => ?_
  · rw [Nat.mod_eq_of_lt (Nat.div_lt_of_lt_mul (n := 4096) (Nat.lt_succ_of_le h)), Nat.add_comm _ 224,
      Nat.add_comm _ 128, Nat.add_comm _ 128]; rfl
  · rw [Nat.mod_eq_of_lt (Nat.div_lt_of_lt_mul top), Nat.add_comm _ 240, Nat.add_comm _ 128, Nat.add_comm _ 128,
      Nat.add_comm _ 128]; rfl

theorem utf8_toByteArray (s : String) : (utf8 s).toByteArray = s.toByteArray := by
  rw [← String.utf8Encode_toList, List.utf8Encode, utf8, funext utf8Char_eq]

theorem utf8_injective (s t : String) (h : utf8 s = utf8 t) : s = t :=
  String.toByteArray_inj.mp (by rw [← utf8_toByteArray, h, utf8_toByteArray])

end Edxml
