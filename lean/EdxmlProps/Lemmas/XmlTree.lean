/-
Lemmas for the ontology codec (`EdxmlModel/Ontology/XmlCodec.lean`, `XmlTree.lean`): sorting by a
string key, and `cycleAll`.
-/
import EdxmlModel.Ontology.XmlTree
import EdxmlProps.Lemmas.FilterMap
namespace EdxmlProps.XmlTree
open Edxml Edxml.Codec

variable {α : Type}

section sorting
variable (key : α → String)

theorem sortBy_perm (l : List α) : (sortBy key l).Perm l := List.mergeSort_perm l _

theorem mem_sortBy {l : List α} {x : α} : x ∈ sortBy key l ↔ x ∈ l := (sortBy_perm key l).mem_iff

theorem sortBy_sorted (l : List α) : (sortBy key l).Pairwise fun x y => key x ≤ key y :=
  (List.pairwise_mergeSort (fun _ _ _ => by simpa using String.le_trans) (fun _ _ => by simpa using String.le_total _ _)
    l).imp of_decide_eq_true

theorem sortBy_of_sorted {l : List α} (h : l.Pairwise fun x y => key x ≤ key y) : sortBy key l = l :=
  List.mergeSort_of_pairwise (h.imp decide_eq_true)

theorem sortBy_perm_eq {l₁ l₂ : List α} (hp : l₁.Perm l₂)
    (hinj : ∀ x ∈ l₁, ∀ y ∈ l₁, key x = key y → x = y) : sortBy key l₁ = sortBy key l₂ :=
  List.Perm.eq_of_pairwise (le := fun x y => key x ≤ key y)
    (fun a b ha hb hab hba => hinj a ((mem_sortBy key).mp ha) b (hp.symm.subset ((mem_sortBy key).mp hb))
      (String.le_antisymm hab hba))
    (sortBy_sorted key l₁) (sortBy_sorted key l₂)
    (((sortBy_perm key l₁).trans hp).trans (sortBy_perm key l₂).symm)

end sorting

/-- how `cycleProp`, `cycleEt` and `cycleOnt` treat each of their containers: every member is
cycled, then the container is sorted by the key of its members -/
def cycleAll (f : α → Option α) (key : α → String) (l : List α) : Option (List α) := (l.mapM f).map (sortBy key)

section container
variable {f : α → Option α} {key : α → String} {l r : List α}

theorem cycleAll_fixed (h : cycleAll f key l = some r) (hf : ∀ x ∈ l, ∀ y, f x = some y → f y = some y) :
    cycleAll f key r = some r := by
  obtain ⟨r₀, h₀, rfl⟩ := Option.map_eq_some_iff.mp h
  have : (sortBy key r₀).mapM f = some (sortBy key r₀) := mapM_fixed fun y hy => by
    obtain ⟨x, hx, hxy⟩ := mapM_mem h₀ ((mem_sortBy key).mp hy)
    exact hf x hx y hxy
  rw [cycleAll, this, Option.map_some, sortBy_of_sorted key (sortBy_sorted key r₀)]

theorem cycleAll_sorted (h : cycleAll f key l = some r) : r.Pairwise fun x y => key x ≤ key y := by
  obtain ⟨r₀, _, rfl⟩ := Option.map_eq_some_iff.mp h
  exact sortBy_sorted key r₀

theorem cycleAll_complete (h : cycleAll f key l = some r) : ∃ r₀, l.mapM f = some r₀ ∧ r.Perm r₀ := by
  obtain ⟨r₀, h₀, rfl⟩ := Option.map_eq_some_iff.mp h
  exact ⟨r₀, h₀, sortBy_perm key r₀⟩

theorem cycleAll_length (h : cycleAll f key l = some r) : r.length = l.length := by
  obtain ⟨r₀, h₀, hp⟩ := cycleAll_complete h
  rw [hp.length_eq, mapM_length h₀]

theorem cycleAll_order_free {l₁ l₂ : List α} (hp : l₁.Perm l₂) (h : cycleAll f key l₁ = some r)
    (hinj : ∀ x ∈ r, ∀ y ∈ r, key x = key y → x = y) : cycleAll f key l₂ = some r := by
  obtain ⟨r₁, h₁, rfl⟩ := Option.map_eq_some_iff.mp h
  obtain ⟨r₂, h₂, hp₂⟩ := mapM_perm hp h₁
  rw [cycleAll, h₂, Option.map_some, ← sortBy_perm_eq key hp₂ fun x hx y hy =>
    hinj x ((mem_sortBy key).mpr hx) y ((mem_sortBy key).mpr hy)]

end container

end EdxmlProps.XmlTree
