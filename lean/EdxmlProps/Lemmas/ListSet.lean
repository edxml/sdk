/-
Lemmas about canonical (strictly sorted, duplicate-free) lists as finite sets.
-/
import EdxmlModel.Basic.ListSet
namespace Edxml

structure StrictTotal (lt : α → α → Bool) : Prop where
  irrefl : ∀ a, lt a a = false
  trans : ∀ a b c, lt a b = true → lt b c = true → lt a c = true
  total : ∀ a b, lt a b = false → lt b a = false → a = b

abbrev SSorted (lt : α → α → Bool) (l : List α) : Prop := l.Pairwise (fun a b => lt a b = true)

variable {lt : α → α → Bool}

theorem StrictTotal.asymm (h : StrictTotal lt) {a b : α} (hab : lt a b = true) : lt b a = false := by
  cases hba : lt b a with
  | false => rfl
  | true => have := h.trans a b a hab hba; rw [h.irrefl] at this; cases this

theorem StrictTotal.comap (h : StrictTotal lt) (f : β → α) (hf : ∀ a b, f a = f b → a = b) :
    StrictTotal fun a b => lt (f a) (f b) where
  irrefl a := h.irrefl (f a)
  trans a b c := h.trans (f a) (f b) (f c)
  total a b h1 h2 := hf a b (h.total (f a) (f b) h1 h2)

theorem mem_insertU (h : StrictTotal lt) (x a : α) (l : List α) :
    a ∈ insertU lt x l ↔ a = x ∨ a ∈ l := by
  fun_induction insertU lt x l with
  | case3 y ys hxy hyx ih => simp [ih, or_left_comm]
  | case4 y ys h1 h2 =>
    have : x = y := h.total x y (by simpa using h1) (by simpa using h2)
    subst this; simp
  | _ => simp

theorem sorted_insertU (h : StrictTotal lt) (x : α) (l : List α) (hs : SSorted lt l) :
    SSorted lt (insertU lt x l) := by
  fun_induction insertU lt x l with
  | case1 => simp
  | case2 y ys hxy =>
    exact List.pairwise_cons.mpr ⟨List.forall_mem_cons.mpr
      ⟨hxy, fun b hb => h.trans _ _ _ hxy (List.rel_of_pairwise_cons hs hb)⟩, hs⟩
  | case3 y ys _ hyx ih =>
    have hy := List.pairwise_cons.mp hs
    refine List.pairwise_cons.mpr ⟨?_, ih hy.2⟩
    intro b hb
    rcases (mem_insertU h x b ys).mp hb with rfl | hb
    · exact hyx
    · exact hy.1 b hb
  | case4 => exact hs

theorem sorted_canon (h : StrictTotal lt) (l : List α) : SSorted lt (canon lt l) := by
  induction l with
  | nil => simp [canon]
  | cons x xs ih => exact sorted_insertU h x _ ih

theorem mem_canon (h : StrictTotal lt) (a : α) (l : List α) : a ∈ canon lt l ↔ a ∈ l := by
  induction l with
  | nil => simp [canon]
  | cons x xs ih =>
    show a ∈ insertU lt x (canon lt xs) ↔ _
    rw [mem_insertU h, ih]; simp

theorem nodup_of_sorted (h : StrictTotal lt) (l : List α) (hs : SSorted lt l) : l.Nodup := by
  refine List.Pairwise.imp ?_ hs
  intro a b hab heq
  subst heq; rw [h.irrefl] at hab; cases hab

theorem sorted_ext (h : StrictTotal lt) (l₁ l₂ : List α) (h1 : SSorted lt l₁) (h2 : SSorted lt l₂)
    (hm : ∀ a, a ∈ l₁ ↔ a ∈ l₂) : l₁ = l₂ :=
  ((List.perm_ext_iff_of_nodup (nodup_of_sorted h _ h1) (nodup_of_sorted h _ h2)).mpr hm).eq_of_pairwise
    (fun a b _ _ hab hba => by rw [h.asymm hab] at hba; cases hba) h1 h2

theorem canon_eq_iff (h : StrictTotal lt) (l₁ l₂ : List α) :
    canon lt l₁ = canon lt l₂ ↔ ∀ a, a ∈ l₁ ↔ a ∈ l₂ := by
  constructor
  · intro he a
    rw [← mem_canon h a l₁, ← mem_canon h a l₂, he]
  · intro hm
    apply sorted_ext h _ _ (sorted_canon h _) (sorted_canon h _)
    intro a
    rw [mem_canon h, mem_canon h]; exact hm a

theorem canon_perm (h : StrictTotal lt) {l₁ l₂ : List α} (hp : l₁.Perm l₂) :
    canon lt l₁ = canon lt l₂ :=
  (canon_eq_iff h l₁ l₂).mpr fun _ => hp.mem_iff

theorem canon_of_sorted (h : StrictTotal lt) (l : List α) (hs : SSorted lt l) : canon lt l = l :=
  sorted_ext h _ _ (sorted_canon h l) hs fun a => mem_canon h a l

theorem canon_idem (h : StrictTotal lt) (l : List α) : canon lt (canon lt l) = canon lt l :=
  canon_of_sorted h _ (sorted_canon h l)

/-- On keys in `Nat`, `lexLt` is core's order of lists, taken on the lists of keys. -/
theorem lexLt_eq_lt (f : α → Nat) (a b : List α) :
    lexLt (fun x y => decide (f x < f y)) a b = decide (a.map f < b.map f) := by
  fun_induction lexLt (fun x y => decide (f x < f y)) a b with
  | case4 x xs y ys ih =>
    simp only [ih, List.map_cons, List.cons_lt_cons_iff, Bool.decide_or, Bool.decide_and]
    rcases Nat.lt_trichotomy (f x) (f y) with h | h | h
    · simp [h]
    · simp [h]
    · simp [h, Nat.lt_asymm h, Nat.ne_of_gt h]
  | _ => simp

theorem lexLt_strictTotal (f : α → Nat) (hf : ∀ a b, f a = f b → a = b) :
    StrictTotal (lexLt fun x y => decide (f x < f y)) where
  irrefl a := by rw [lexLt_eq_lt]; exact decide_eq_false (List.lt_irrefl _)
  trans a b c := by simp only [lexLt_eq_lt, decide_eq_true_eq]; exact List.lt_trans
  total a b := by
    simp only [lexLt_eq_lt, decide_eq_false_iff_not, List.not_lt]
    exact fun hba hab => (List.map_inj_right hf).mp (List.le_antisymm hab hba)

theorem bytesLt_strictTotal : StrictTotal bytesLt :=
  lexLt_strictTotal UInt8.toNat fun _ _ => UInt8.toNat_inj.mp

theorem strLt_strictTotal : StrictTotal strLt :=
  (lexLt_strictTotal Char.toNat fun _ _ => Char.toNat_inj.mp).comap String.toList fun _ _ => String.toList_inj.mp

theorem mem_canonS (a : String) (l : List String) : a ∈ canonS l ↔ a ∈ l :=
  mem_canon strLt_strictTotal a l

theorem canonS_idem (l : List String) : canonS (canonS l) = canonS l := canon_idem strLt_strictTotal l

theorem canonS_eq_iff (l₁ l₂ : List String) : canonS l₁ = canonS l₂ ↔ ∀ a, a ∈ l₁ ↔ a ∈ l₂ :=
  canon_eq_iff strLt_strictTotal l₁ l₂

theorem canonS_singleton (a : String) : canonS [a] = [a] := rfl

theorem canonS_nil : canonS ([] : List String) = [] := rfl

theorem canonS_eq_nil {l : List String} : canonS l = [] ↔ l = [] := by
  simp only [List.eq_nil_iff_forall_not_mem, mem_canonS]

end Edxml
