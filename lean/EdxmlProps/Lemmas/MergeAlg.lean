/-
Algebra of merging. `mergeObjs st numeric os` is the merged object set of a property with strategy
`st` as a function of the list `os` of the instances' object sets (`mergeProp_eq`). Every strategy is
of one of three kinds (`mergeObjs_kind`): it selects the object set of one instance, or takes the
least object of all instances under a total preorder, or takes the union. "Partial merges may be
merged" is `mergeObjs_middle`; for the stream mergers, which pass groups of one on,
`groupObjs_middle`.
-/
import EdxmlProps.Lemmas.Merge
namespace Edxml

def lmin (le : α → α → Bool) (a b : α) : α := if le a b then a else b

theorem lmin_spec {le : α → α → Bool} (hp : TotalPreorder le) (a b : α) :
    (lmin le a b = a ∨ lmin le a b = b) ∧ le (lmin le a b) a = true ∧ le (lmin le a b) b = true := by
  unfold lmin
  by_cases h : le a b = true
  · rw [if_pos h]; exact ⟨.inl rfl, hp.refl a, h⟩
  · rw [if_neg h]; exact ⟨.inr rfl, (hp.total a b).resolve_left h, hp.refl b⟩

theorem lmin_assoc (le : α → α → Bool) (hp : TotalPreorder le) (a b c : α) :
    lmin le (lmin le a b) c = lmin le a (lmin le b c) := by
  unfold lmin
  by_cases hab : le a b = true <;> by_cases hbc : le b c = true <;>
    simp only [hab, hbc, if_true, if_false, Bool.false_eq_true]
  · rw [if_pos (hp.trans _ _ _ hab hbc)]
  · -- `b ≤ a` and not `b ≤ c`, so not `a ≤ c`
    rw [if_neg fun hac => hbc (hp.trans _ _ _ ((hp.total a b).resolve_left hab) hac)]

theorem pyMin_eq_foldl (le : α → α → Bool) (x : α) (xs : List α) :
    pyMin le (x :: xs) = some (xs.foldl (lmin le) x) := rfl

theorem pyMax_eq_pyMin_flip (le : α → α → Bool) (l : List α) :
    pyMax le l = pyMin (fun a b => le b a) l := by
  cases l <;> rfl

theorem pyMin_eq_none {le : α → α → Bool} {l : List α} : pyMin le l = none ↔ l = [] := by
  cases l <;> simp [pyMin]

theorem pyMin_toList (le : α → α → Bool) (o : Option α) : pyMin le o.toList = o := by
  cases o <;> rfl

def optMin (le : α → α → Bool) : Option α → Option α → Option α
  | none, b => b
  | a, none => a
  | some a, some b => some (lmin le a b)

theorem optMin_assoc (le : α → α → Bool) (hp : TotalPreorder le) (a b c : Option α) :
    optMin le (optMin le a b) c = optMin le a (optMin le b c) := by
  cases a <;> cases b <;> cases c <;> simp only [optMin]
  rw [lmin_assoc le hp]

theorem pyMin_append (le : α → α → Bool) (hp : TotalPreorder le) (a b : List α) :
    pyMin le (a ++ b) = optMin le (pyMin le a) (pyMin le b) := by
  cases a with
  | nil => cases b <;> rfl
  | cons x xs =>
    cases b with
    | nil => simp only [List.append_nil]; rfl
    | cons y ys =>
      haveI : Std.Associative (lmin le) := ⟨lmin_assoc le hp⟩
      simp only [List.cons_append, pyMin_eq_foldl, optMin, List.foldl_append]
      exact congrArg some List.foldl_assoc

theorem pyMin_spec (le : α → α → Bool) (hp : TotalPreorder le) : ∀ (l : List α) (m : α),
    pyMin le l = some m → m ∈ l ∧ ∀ y ∈ l, le m y = true
  | [], _, h => nomatch h
  | x :: xs, m, h => by
    rw [← List.singleton_append, pyMin_append le hp] at h
    change optMin le (some x) (pyMin le xs) = some m at h
    cases hxs : pyMin le xs with
    | none =>
      rw [hxs] at h; cases h
      rw [pyMin_eq_none.mp hxs]
      exact ⟨List.mem_singleton.mpr rfl, fun y hy => by rw [List.mem_singleton.mp hy]; exact hp.refl _⟩
    | some m' =>
      rw [hxs] at h; cases h
      have ⟨hm', hle'⟩ := pyMin_spec le hp xs m' hxs
      have ⟨hor, hx, hm⟩ := lmin_spec hp x m'
      refine ⟨?_, fun y hy => ?_⟩
      · rcases hor with e | e <;> rw [e]
        · exact List.mem_cons_self
        · exact List.mem_cons_of_mem _ hm'
      · rcases List.mem_cons.mp hy with rfl | hy
        · exact hx
        · exact hp.trans _ _ _ hm (hle' y hy)

theorem pyMax_spec (le : α → α → Bool) (hp : TotalPreorder le) (l : List α) (m : α)
    (h : pyMax le l = some m) : m ∈ l ∧ ∀ y ∈ l, le y m = true :=
  pyMin_spec _ hp.flip l m (pyMax_eq_pyMin_flip le l ▸ h)

theorem pyMin_congr (le : α → α → Bool) (hp : TotalPreorder le) {l₁ l₂ : List α}
    (hm : ∀ a, a ∈ l₁ ↔ a ∈ l₂)
    (anti : ∀ a ∈ l₁, ∀ b ∈ l₁, le a b = true → le b a = true → a = b) :
    pyMin le l₁ = pyMin le l₂ := by
  cases h₁ : pyMin le l₁ with
  | none =>
    have : l₂ = [] := List.eq_nil_iff_forall_not_mem.mpr fun a ha => by
      rw [pyMin_eq_none.mp h₁] at hm; exact nomatch (hm a).mpr ha
    rw [this]; rfl
  | some m₁ =>
    cases h₂ : pyMin le l₂ with
    | none => rw [pyMin_eq_none.mp h₂] at hm; exact nomatch (hm m₁).mp (pyMin_spec le hp _ _ h₁).1
    | some m₂ =>
      have ⟨hm₁, hle₁⟩ := pyMin_spec le hp _ _ h₁
      have ⟨hm₂, hle₂⟩ := pyMin_spec le hp _ _ h₂
      have hm₂' := (hm m₂).mpr hm₂
      rw [anti m₁ hm₁ m₂ hm₂' (hle₁ m₂ hm₂') (hle₂ m₁ ((hm m₁).mp hm₁))]

theorem pyMin_flatten_spec (le : α → α → Bool) (hp : TotalPreorder le) (l : List ι) (f : ι → List α)
    (hne : ∃ i ∈ l, f i ≠ []) :
    ∃ m, (pyMin le (l.map f).flatten).toList = [m] ∧ (∃ i ∈ l, m ∈ f i) ∧
      ∀ i ∈ l, ∀ v ∈ f i, le m v = true := by
  rw [← List.flatMap_def]
  have ⟨i, hi, hfi⟩ := hne
  cases hm : pyMin le (l.flatMap f) with
  | none => exact absurd (List.flatMap_eq_nil_iff.mp (pyMin_eq_none.mp hm) i hi) hfi
  | some m =>
    have ⟨hmem, hle⟩ := pyMin_spec le hp _ m hm
    exact ⟨m, rfl, List.mem_flatMap.mp hmem, fun i hi v hv =>
      hle v (List.mem_flatMap.mpr ⟨i, hi, hv⟩)⟩

theorem pyMin_middle (le : α → α → Bool) (hp : TotalPreorder le) (pre xs post : List α) :
    pyMin le (pre ++ (pyMin le xs).toList ++ post) = pyMin le (pre ++ xs ++ post) := by
  rw [pyMin_append le hp, pyMin_append le hp, pyMin_toList, pyMin_append le hp (pre ++ xs),
    pyMin_append le hp pre xs]

def firstNE (os : List (List String)) : List String := (os.find? (!·.isEmpty)).getD []

theorem firstNonEmpty_eq (p : String) (es : List Event) :
    firstNonEmpty p es = firstNE (es.map (·.objects p)) := by
  induction es with
  | nil => rfl
  | cons e es ih =>
    rw [firstNonEmpty, ih, firstNE, firstNE, List.map_cons, List.find?_cons]
    cases (e.objects p).isEmpty <;> rfl

theorem firstNE_mem {os : List (List String)} (h : os ≠ []) : firstNE os ∈ os := by
  unfold firstNE
  cases hf : os.find? (!·.isEmpty) with
  | some o => exact List.mem_of_find?_eq_some hf
  | none =>
    obtain ⟨o, os', rfl⟩ := List.exists_cons_of_ne_nil h
    obtain rfl : o = [] := by simpa using List.find?_eq_none.mp hf o List.mem_cons_self
    exact List.mem_cons_self

theorem firstNE_map_spec (f : α → List String) (l : List α) :
    (firstNE (l.map f) = [] ∧ ∀ a ∈ l, f a = []) ∨
    (∃ pre a post, l = pre ++ a :: post ∧ (∀ x ∈ pre, f x = []) ∧ f a ≠ [] ∧
      firstNE (l.map f) = f a) := by
  unfold firstNE
  rw [List.find?_map]
  cases hf : l.find? _ with
  | none => exact .inl ⟨rfl, fun a ha => by simpa using List.find?_eq_none.mp hf a ha⟩
  | some a =>
    obtain ⟨ha, pre, post, rfl, hpre⟩ := List.find?_eq_some_iff_append.mp hf
    exact .inr ⟨pre, a, post, rfl, by simpa using hpre, by simpa using ha, rfl⟩

theorem firstNE_append (a b : List (List String)) :
    firstNE (a ++ b) = if (firstNE a).isEmpty then firstNE b else firstNE a := by
  unfold firstNE
  rw [List.find?_append]
  cases hf : a.find? (!·.isEmpty) with
  | none => rfl
  | some o => rw [if_neg (by simpa using List.find?_some hf)]; rfl

theorem firstNE_single (o : List String) : firstNE [o] = o := by
  cases o <;> rfl

def mergeObjs (st : Strategy) (numeric : Bool) (os : List (List String)) : List String :=
  match st with
  | .min => (pyMin (keyLe numeric) os.flatten).toList
  | .max => (pyMax (keyLe numeric) os.flatten).toList
  | .add => canonS os.flatten
  | .replace => os.getLast?.getD []
  | .set | .any | .match_ => firstNE os

theorem mergeProp_eq (s : PropSpec) (es : List Event) :
    mergeProp s es = mergeObjs s.merge s.numeric (es.map (·.objects s.name)) := by
  unfold mergeProp mergeObjs
  simp only [List.flatMap_def]
  cases s.merge <;> simp only [firstNonEmpty_eq]
  · rw [List.getLast?_map]
    cases es.getLast? <;> rfl

variable {st : Strategy} {numeric : Bool} {os : List (List String)}

theorem mergeObjs_min :
    mergeObjs .min numeric os = (pyMin (keyLe numeric) os.flatten).toList := rfl

theorem mergeObjs_add : mergeObjs .add numeric os = canonS os.flatten := rfl

theorem mergeObjs_replace : mergeObjs .replace numeric os = os.getLast?.getD [] := rfl

theorem mergeObjs_set : mergeObjs .set numeric os = firstNE os := rfl

theorem mergeObjs_any : mergeObjs .any numeric os = firstNE os := rfl

theorem mergeObjs_match : mergeObjs .match_ numeric os = firstNE os := rfl

theorem mergeObjs_nil : mergeObjs st numeric [] = [] := by
  cases st <;> rfl

theorem mergeObjs_max :
    mergeObjs .max numeric os = (pyMin (fun a b => keyLe numeric b a) os.flatten).toList := by
  rw [← pyMax_eq_pyMin_flip]; rfl

theorem mergeObjs_kind (st : Strategy) (numeric : Bool) :
    (∀ os, os ≠ [] → mergeObjs st numeric os ∈ os) ∨
    ((st = .min ∨ st = .max) ∧ ∃ le : String → String → Bool, TotalPreorder le ∧
      ∀ os, mergeObjs st numeric os = (pyMin le os.flatten).toList) ∨
    (st = .add ∧ ∀ os, mergeObjs st numeric os = canonS os.flatten) := by
  cases st with
  | min => exact .inr (.inl ⟨.inl rfl, _, keyLe_preorder numeric, fun _ => mergeObjs_min⟩)
  | max => exact .inr (.inl ⟨.inr rfl, _, (keyLe_preorder numeric).flip, fun _ => mergeObjs_max⟩)
  | add => exact .inr (.inr ⟨rfl, fun _ => mergeObjs_add⟩)
  | replace =>
    refine .inl fun os h => ?_
    rw [mergeObjs_replace, List.getLast?_eq_some_getLast h]
    exact List.getLast_mem h
  | set => exact .inl fun _ h => mergeObjs_set ▸ firstNE_mem h
  | any => exact .inl fun _ h => mergeObjs_any ▸ firstNE_mem h
  | match_ => exact .inl fun _ h => mergeObjs_match ▸ firstNE_mem h

theorem mergeObjs_subset {v : String} (hv : v ∈ mergeObjs st numeric os) : ∃ o ∈ os, v ∈ o := by
  rcases mergeObjs_kind st numeric with hsel | ⟨_, le, hp, hmin⟩ | ⟨_, hadd⟩
  · have hne : os ≠ [] := by rintro rfl; rw [mergeObjs_nil] at hv; cases hv
    exact ⟨_, hsel os hne, hv⟩
  · rw [hmin, Option.mem_toList] at hv
    exact List.mem_flatten.mp (pyMin_spec le hp _ v hv).1
  · rw [hadd, mem_canonS] at hv
    exact List.mem_flatten.mp hv

theorem mergeObjs_canon (h : ∀ o ∈ os, canonS o = o) :
    canonS (mergeObjs st numeric os) = mergeObjs st numeric os := by
  rcases mergeObjs_kind st numeric with hsel | ⟨_, le, _, hmin⟩ | ⟨_, hadd⟩
  · by_cases hne : os = []
    · rw [hne, mergeObjs_nil]; rfl
    · exact h _ (hsel os hne)
  · rw [hmin]; cases pyMin le os.flatten <;> rfl
  · rw [hadd]; exact canonS_idem _

theorem mergeObjs_ne_nil (hne : os ≠ []) (h : ∀ o ∈ os, o ≠ []) : mergeObjs st numeric os ≠ [] := by
  have hflat : os.flatten ≠ [] := fun e =>
    have ⟨o, ho⟩ := List.exists_mem_of_ne_nil os hne
    h o ho (List.flatten_eq_nil_iff.mp e o ho)
  rcases mergeObjs_kind st numeric with hsel | ⟨_, le, _, hmin⟩ | ⟨_, hadd⟩
  · exact h _ (hsel os hne)
  · rw [hmin, Ne, Option.toList_eq_nil_iff, pyMin_eq_none]; exact hflat
  · rw [hadd, Ne, canonS_eq_nil]; exact hflat

/-- Merging copies of one object set `O` gives `O`; `min`/`max` keep one object, so they need `h1`. -/
theorem mergeObjs_const {O : List String} (hne : os ≠ []) (hO : ∀ o ∈ os, o = O) (hc : canonS O = O)
    (h1 : st = .min ∨ st = .max → O.length ≤ 1) : mergeObjs st numeric os = O := by
  have hmem : ∀ v, v ∈ os.flatten ↔ v ∈ O := fun v => by
    have ⟨o, ho⟩ := List.exists_mem_of_ne_nil os hne
    rw [List.mem_flatten]
    exact ⟨fun ⟨o', ho', hv⟩ => hO o' ho' ▸ hv, fun hv => ⟨o, ho, (hO o ho).symm ▸ hv⟩⟩
  rcases mergeObjs_kind st numeric with hsel | ⟨hst, le, hp, hmin⟩ | ⟨_, hadd⟩
  · exact hO _ (hsel os hne)
  · rw [hmin]
    cases hm : pyMin le os.flatten with
    | none =>
      rw [pyMin_eq_none.mp hm] at hmem
      exact (List.eq_nil_iff_forall_not_mem.mpr fun v hv => nomatch (hmem v).mpr hv).symm
    | some m =>
      -- `m ∈ O`, and `O` has at most one member
      have hmO := (hmem m).mp (pyMin_spec le hp _ m hm).1
      match O, h1 hst, hmO with
      | [x], _, hmO => rw [List.mem_singleton.mp hmO]; rfl
  · rw [hadd, ← hc, canonS_eq_iff]; exact hmem

theorem mergeObjs_middle (st : Strategy) (numeric : Bool) (pre xs post : List (List String))
    (hx : xs ≠ []) :
    mergeObjs st numeric (pre ++ mergeObjs st numeric xs :: post)
      = mergeObjs st numeric (pre ++ xs ++ post) := by
  cases st with
  | min =>
    simp only [mergeObjs_min, List.flatten_append, List.flatten_cons]
    rw [← List.append_assoc, pyMin_middle _ (keyLe_preorder numeric)]
  | max =>
    simp only [mergeObjs_max, List.flatten_append, List.flatten_cons]
    rw [← List.append_assoc, pyMin_middle _ (keyLe_preorder numeric).flip]
  | add =>
    simp only [mergeObjs_add, List.flatten_append, List.flatten_cons]
    rw [canonS_eq_iff]
    intro a
    simp only [List.mem_append, mem_canonS, or_assoc]
  | replace =>
    obtain ⟨ys, z, rfl⟩ := (List.eq_nil_or_concat xs).resolve_left hx
    simp only [mergeObjs_replace, List.concat_eq_append, List.getLast?_append, List.getLast?_cons,
      List.getLast?_nil]
    cases post.getLast? <;> rfl
  | set | any | match_ =>
    simp only [mergeObjs_set, mergeObjs_any, mergeObjs_match]
    rw [← List.singleton_append, firstNE_append, firstNE_append [firstNE xs], firstNE_single,
      List.append_assoc, firstNE_append pre, firstNE_append xs]

/-- Merged objects of a group as `mergeGroup` computes them. -/
def groupObjs (st : Strategy) (numeric : Bool) (g : List (List String)) : List String :=
  match g with
  | [o] => o
  | _ => mergeObjs st numeric g

theorem groupObjs_eq_mergeObjs {g : List (List String)} (h : g.length ≠ 1) :
    groupObjs st numeric g = mergeObjs st numeric g := by
  match g, h with
  | [], _ => rfl
  | _ :: _ :: _, _ => rfl

theorem groupObjs_middle (st : Strategy) (numeric : Bool) (pre g post : List (List String))
    (hg : g ≠ []) :
    groupObjs st numeric (pre ++ groupObjs st numeric g :: post)
      = groupObjs st numeric (pre ++ g ++ post) := by
  match g, hg with
  | [o], _ => rw [List.append_assoc]; rfl
  | a :: b :: r, _ =>
    have hr : (pre ++ (a :: b :: r) ++ post).length ≠ 1 := by
      simp only [List.length_append, List.length_cons]; omega
    rw [groupObjs_eq_mergeObjs hr]
    by_cases h : pre.length + post.length = 0
    · obtain ⟨rfl, rfl⟩ : pre = [] ∧ post = [] :=
        ⟨List.length_eq_zero_iff.mp (by omega), List.length_eq_zero_iff.mp (by omega)⟩
      rw [List.append_nil]; rfl
    · have hl : ∀ m, (pre ++ m :: post).length ≠ 1 := fun m => by
        simp only [List.length_append, List.length_cons]; omega
      rw [groupObjs_eq_mergeObjs (hl _)]
      exact mergeObjs_middle st numeric pre _ post (List.cons_ne_nil _ _)

end Edxml
