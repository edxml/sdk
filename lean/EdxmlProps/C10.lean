/-
C10. Accepted ontology upgrades are backward compatible with existing events.

Whenever the comparison of C09 accepts a newer event type definition (`old < new`): the gate
generated from the newer definitions (C03) accepts every event the old gate accepted, also when the
object types were upgraded along (`OntUp`); such an event keeps its sticky hash (C01); and merging
such events (C04) gives the same object sets or the same error (these two with the object types held
fixed). The closing part shows changes the comparison never accepts.
-/
import EdxmlProps.C09
import EdxmlProps.C03
import EdxmlProps.C04

/-! ### the gate: admitting at least as much keeps accepting -/

namespace Edxml.Gate
open EdxmlProps.C03

/-- `g'` admits at least what `g` admits -/
structure GUp (g g' : GEventType) (info info' : String → String → StrInfo) : Prop where
  nodup' : (g'.props.map (·.name)).Nodup
  props : ∀ p ∈ g.props, ∃ p' ∈ g'.props, p'.name = p.name ∧ (p.optional = true → p'.optional = true) ∧
    (p.multivalued = true → p'.multivalued = true) ∧
    ∀ v, accepts p.dataType (info p.name v) v = true → accepts p'.dataType (info' p.name v) v = true
  added : ∀ p' ∈ g'.props, (∃ p ∈ g.props, p.name = p'.name) ∨ p'.optional = true
  anodup' : (g'.attachments.map (·.name)).Nodup
  atts : ∀ a ∈ g.attachments, ∃ a' ∈ g'.attachments, a'.name = a.name ∧ a'.base64 = a.base64

theorem cardOk_mono {e : Event} {p p' : GProp} (hn : p'.name = p.name) (ho : p.optional = true → p'.optional = true)
    (hm : p.multivalued = true → p'.multivalued = true) (h : cardOk e p = true) : cardOk e p' = true := by
  simp only [cardOk, hn, Bool.and_eq_true, Bool.or_eq_true, decide_eq_true_eq] at h ⊢
  exact ⟨h.1.imp ho id, h.2.imp hm id⟩

theorem gate_declared {g : GEventType} {info : String → String → StrInfo} {e : Event} (h : gate g info e = true)
    {pv : String × String} (hp : pv ∈ e.pairs) : ∃ p ∈ g.props, p.name = pv.1 := by
  obtain ⟨nv, hnv, hn, hv⟩ := (mem_pairs e pv.1 pv.2).mp hp
  exact hn ▸ propOk_declared (((gate_iff g info e).mp h).2.2.2.1 nv hnv) hv

theorem gate_mono (g g' : GEventType) (info info' : String → String → StrInfo) (up : GUp g g' info info')
    (e : Event) (h : gate g info e = true) : gate g' info' e = true := by
  obtain ⟨h1, h2, h3, h4, h5, h6, h7⟩ := (gate_iff g info e).mp h
  refine (gate_iff g' info' e).mpr ⟨h1, h2, h3, ?_, ?_, ?_, h7⟩
  · rintro ⟨n, objs⟩ hpv
    rw [propOk_iff]
    rcases (propOk_iff g info n objs).mp (h4 _ hpv) with ⟨rfl, -⟩ | ⟨p, hf, hv⟩
    · cases hf' : g'.props.find? (·.name == n) with
      | none => exact Or.inl ⟨rfl, rfl⟩
      | some p' => exact Or.inr ⟨p', rfl, nofun⟩
    · obtain ⟨hp, rfl⟩ := find?_key_some hf
      obtain ⟨p', hp', hn', -, -, hacc⟩ := up.props p hp
      exact Or.inr ⟨p', hn' ▸ find?_key_of_mem up.nodup' hp', fun v hv' => hacc v (hv v hv')⟩
  · intro p' hp'
    by_cases hex : ∃ p ∈ g.props, p.name = p'.name
    · obtain ⟨p, hp, hn⟩ := hex
      obtain ⟨p'', hp'', hn'', ho, hm, -⟩ := up.props p hp
      cases nodup_map_inj up.nodup' hp'' hp' (hn''.trans hn)
      exact cardOk_mono hn'' ho hm (h5 p hp)
    · -- an added property: optional, and the event has no object of it
      have hopt := (up.added p' hp').resolve_left hex
      have hnil : e.objects p'.name = [] :=
        objects_absent_pairs e _ fun pv hpv hn => hex (hn ▸ gate_declared h hpv)
      simp [cardOk, hnil, hopt]
  · rintro ⟨n, items⟩ ha
    rw [attOk_iff]
    rcases (attOk_iff g n items).mp (h6 _ ha) with ⟨rfl, -⟩ | ⟨d, hf, hv⟩
    · cases hf' : g'.attachments.find? (·.name == n) with
      | none => exact Or.inl ⟨rfl, rfl⟩
      | some d' => exact Or.inr ⟨d', rfl, nofun⟩
    · obtain ⟨hd, rfl⟩ := find?_key_some hf
      obtain ⟨d', hd', hn', hb⟩ := up.atts d hd
      exact Or.inr ⟨d', hn' ▸ find?_key_of_mem up.anodup' hd', hb ▸ hv⟩

end Edxml.Gate

namespace EdxmlProps.C10
open Edxml Edxml.Ont Edxml.Gate EdxmlProps.C09 EdxmlProps.C04

/-! ### object types: the value space never shrinks -/

theorem family_enum (dt : String) (vs : List String) (h : splitColon dt = "enum" :: vs) : family dt = .enum vs := by
  unfold family; rw [h]; simp

/-- only the string family reads the verdict of the regular expression, and only to conjoin it -/
theorem acceptsFam_mono_regex (f : Family) (lu ll l1 : Bool) {r r' : Option Bool} (v : String)
    (hr : r.getD true = true → r'.getD true = true) (h : acceptsFam f ⟨lu, ll, l1, r⟩ v = true) :
    acceptsFam f ⟨lu, ll, l1, r'⟩ v = true := by
  cases f with
  | string n c u =>
    simp only [acceptsFam, acceptsString, Bool.and_eq_true] at h ⊢
    exact ⟨h.1, hr h.2⟩
  | _ => exact h

theorem enum_extension (o n : List String) (h1 : o.head? = some "enum") (h3 : n.take o.length = o) :
    ∃ vs extra, o = "enum" :: vs ∧ n = "enum" :: (vs ++ extra) := by
  obtain ⟨extra, rfl⟩ := List.prefix_iff_eq_take.mpr h3.symm
  match o, h1 with
  | _ :: vs, h1 => cases h1; exact ⟨vs, extra, rfl, rfl⟩

/-- C10 for object types: an accepted upgrade (enum extension, `old|…` regular expression or a
dropped expression) accepts every value the old definition accepted. -/
theorem objectType_upgrade_value_space (sem : RegexSem) (a b : ObjectTypeDef) (h : cmpObjectType a b = .lt)
    (lu ll l1 : Bool) (v : String)
    (hv : accepts a.dataType ⟨lu, ll, l1, a.regexHard.map (sem.«matches» · v)⟩ v = true) :
    accepts b.dataType ⟨lu, ll, l1, b.regexHard.map (sem.«matches» · v)⟩ v = true := by
  obtain ⟨-, hre, hdt⟩ := cmpObjectType_lt_iff.mp h
  -- the verdict of the regular expression can only improve
  have hrx : (a.regexHard.map (sem.«matches» · v)).getD true = true → (b.regexHard.map (sem.«matches» · v)).getD true = true := by
    rcases hre with he | hu
    · rw [he]; exact id
    · generalize a.regexHard = ra, b.regexHard = rb at hu ⊢
      match ra, rb, hu with
      | none, _, hu => cases hu
      | some r, none, _ => exact fun _ => rfl
      | some r, some x, hu => exact sem.alt r x v hu
  unfold accepts at hv ⊢
  rcases hdt with he | hu
  · rw [← he]
    exact acceptsFam_mono_regex _ lu ll l1 v hrx hv
  · unfold dataTypeUpgradeOk at hu
    simp only [Bool.and_eq_true, beq_iff_eq, decide_eq_true_eq] at hu
    obtain ⟨⟨⟨ho, _⟩, _⟩, ht⟩ := hu
    obtain ⟨vs, extra, e1, e2⟩ := enum_extension _ _ ho ht
    rw [family_enum _ _ e1] at hv
    rw [family_enum _ _ e2]
    simp only [acceptsFam, List.contains_eq_mem, decide_eq_true_eq, List.mem_append] at hv ⊢
    exact Or.inl hv

/-! ### event types -/

/-- every object type is still defined, unchanged or as an accepted upgrade -/
structure OntUp (ots ots' : List ObjectTypeDef) : Prop where
  nodup : (ots.map (·.name)).Nodup
  nodup' : (ots'.map (·.name)).Nodup
  up : ∀ ot ∈ ots, ∃ ot' ∈ ots', ot'.name = ot.name ∧ (ot' = ot ∨ cmpObjectType ot ot' = .lt)

theorem eventTypeFlags_valid (o n : EventTypeDef) (vo vn : Nat) :
    (eventTypeFlags o n vo vn).valid =
      ((o.versionProp == n.versionProp) && (o.seqProp == n.seqProp) && (o.tsStart == n.tsStart) &&
        (o.tsEnd == n.tsEnd) && (cmpOpt (cmpParent vo vn) o.parent n.parent != .gt) &&
        (keysEq (o.props.map (·.name)) (n.props.map (·.name)) ||
          (keysSubset (o.props.map (·.name)) (n.props.map (·.name)) &&
            (n.props.filter fun p => !(o.props.map (·.name)).contains p.name).all (·.optional) &&
            ((n.props.filter fun p => !(o.props.map (·.name)).contains p.name).isEmpty || !o.timeless || n.timeless))) &&
        (sharedVerdicts (·.name) (cmpProp vo vn) n.props o.props).all (· != .gt) &&
        (keysEq (o.relations.map (·.id)) (n.relations.map (·.id)) || keysSubset (o.relations.map (·.id)) (n.relations.map (·.id))) &&
        (sharedVerdicts (·.id) (cmpRelation vo vn) n.relations o.relations).all (· != .gt) &&
        (keysEq (o.attachments.map (·.name)) (n.attachments.map (·.name)) || keysSubset (o.attachments.map (·.name)) (n.attachments.map (·.name))) &&
        (sharedVerdicts (·.name) (cmpAttachment vo vn) n.attachments o.attachments).all (· != .gt)) := by
  simp only [eventTypeFlags, subElementFlags, andEqual_ap, frozen_ap, parentStep_eq_sub, sub_ap, propKeyStep_eq_mono, mono_ap,
    subFold_ap, ap_fields, Bool.true_and, Bool.and_true]

/-- what an accepted event type upgrade guarantees about properties and attachments -/
structure EtUp (a b : EventTypeDef) : Prop where
  props : ∀ p ∈ a.props, ∃ p' ∈ b.props, p'.name = p.name ∧ p.objectType = p'.objectType ∧ p.merge = p'.merge ∧
    (p.multivalued = true → p'.multivalued = true) ∧ (p.optional = true → p'.optional = true)
  added : ∀ p' ∈ b.props, (∃ p ∈ a.props, p.name = p'.name) ∨ p'.optional = true
  atts : ∀ x ∈ a.attachments, ∃ x' ∈ b.attachments, x'.name = x.name ∧ x'.encoding = x.encoding

theorem etUp_refl (a : EventTypeDef) : EtUp a a :=
  ⟨fun p hp => ⟨p, hp, rfl, rfl, rfl, id, id⟩, fun p hp => Or.inl ⟨p, hp, rfl⟩, fun x hx => ⟨x, hx, rfl, rfl⟩⟩

theorem eventType_upgrade_facts (a b : EventTypeDef) (ha : EtWF a) (h : cmpEventType a b = .lt) : EtUp a b := by
  obtain ⟨hlt, hvalid, hraised⟩ := (cmpGen_lt_iff _ a b _ _).mp h
  rw [eventTypeFlags_raised] at hraised
  rw [eventTypeFlags_valid] at hvalid
  simp only [Bool.or_eq_false_iff, List.any_eq_false, beq_iff_eq] at hraised
  simp only [Bool.and_eq_true, Bool.or_eq_true, List.all_eq_true, List.mem_filter, Bool.not_eq_true', and_imp] at hvalid
  -- `valid`: 4 frozen attributes, parent, property names (6th), property verdicts, relation names and
  -- verdicts, attachment names (10th) and verdicts; `raised`: parent, properties, relations, attachments
  obtain ⟨⟨⟨⟨⟨⟨_, hkeys⟩, _⟩, _⟩, _⟩, hakeys⟩, _⟩ := hvalid
  obtain ⟨⟨⟨_, rprops⟩, _⟩, ratts⟩ := hraised
  -- `hkeys`: same names ∨ ((names ⊆ ∧ every added property is optional) ∧ timeless stays timeless)
  -- the sub-elements that both definitions have are accepted upgrades themselves
  have lprops := sharedVerdicts_lt _ (fun _ _ => cmpGen_lt_or_incompat _ _ _ _ _ hlt) rprops
  have latts := sharedVerdicts_lt _ (fun _ _ => cmpGen_lt_or_incompat _ _ _ _ _ hlt) ratts
  refine ⟨fun p hp => ?_, fun p' hp' => ?_, fun x hx => ?_⟩
  · obtain ⟨p', hp', hn⟩ := exists_key_of_subset (keysEq_or_subset_iff.mp (hkeys.imp_right (·.1.1))) hp
    obtain ⟨-, e1, e2, e3, e4, -⟩ := cmpProp_lt_iff.mp (lprops _ (mem_sharedVerdicts_of _ ha.props hp' hp hn.symm))
    exact ⟨p', hp', hn, e1, e2, e3, e4⟩
  · rcases hkeys with hke | ⟨⟨-, hadded⟩, -⟩
    · exact .inl (exists_key_of_subset (keysEq_iff.mp hke).2 hp')
    · exact Classical.or_iff_not_imp_left.mpr fun hno => hadded p' hp'
        (by simpa [List.contains_eq_mem] using hno)
  · obtain ⟨x', hx', hn⟩ := exists_key_of_subset (keysEq_or_subset_iff.mp hakeys) hx
    have hl := latts _ (mem_sharedVerdicts_of _ ha.attachments hx' hx hn.symm)
    exact ⟨x', hx', hn, (congrArg Prod.snd ((attachmentFlags_flat.lt_iff ..).mp hl).2).symm⟩

/-! ### from definitions to gates -/

theorem accepts_empty_type (i : StrInfo) (v : String) : accepts "" i v = false := by
  have : family "" = .unknown := by decide +kernel
  unfold accepts; rw [this]; rfl

theorem accepts_gProp (sem : RegexSem) (cls : String → Bool × Bool × Bool) {ots : List ObjectTypeDef}
    {a : EventTypeDef} {q : PropDef} (ha : (a.props.map (·.name)).Nodup) (hq : q ∈ a.props) {n : String}
    (hn : q.name = n) (v : String) :
    accepts (gProp ots q).dataType (infoOf sem cls ots a n v) v = true ↔
      ∃ ot, findBy (·.name) q.objectType ots = some ot ∧
        accepts ot.dataType ⟨(cls v).1, (cls v).2.1, (cls v).2.2, ot.regexHard.map (sem.«matches» · v)⟩ v = true := by
  subst hn
  cases hf : findBy (fun x : ObjectTypeDef => x.name) q.objectType ots with
  | none => simp [gProp, hf, accepts_empty_type]
  | some ot => simp [gProp, infoOf, regexOfProp, findBy_of_mem ha hq, hf]

theorem upgrade_GUp (sem : RegexSem) (cls : String → Bool × Bool × Bool) (ots ots' : List ObjectTypeDef)
    (a b : EventTypeDef) (ha : EtWF a) (hb : EtWF b) (ho : OntUp ots ots') (he : EtUp a b) :
    GUp (gateType ots a) (gateType ots' b) (infoOf sem cls ots a) (infoOf sem cls ots' b) where
  nodup' := by simpa [gateType, gProp, List.map_map, Function.comp_def] using hb.props
  anodup' := by simpa [gateType, gAtt, List.map_map, Function.comp_def] using hb.attachments
  props := List.forall_mem_map.mpr fun q hq => by
    obtain ⟨q', hq', hn, hot, _, hmul, hopt⟩ := he.props q hq
    refine ⟨_, List.mem_map_of_mem (f := gProp ots') hq', hn, hopt, hmul, fun v hv => ?_⟩
    obtain ⟨ot, hf, hv⟩ := (accepts_gProp sem cls ha.props hq rfl v).mp hv
    obtain ⟨hotm, hotn⟩ := findBy_some hf
    obtain ⟨ot', hot'm, hot'n, hrel⟩ := ho.up ot hotm
    refine (accepts_gProp sem cls hb.props hq' hn v).mpr ⟨ot', ?_, ?_⟩
    · rw [← hot, ← hotn, ← hot'n]; exact findBy_of_mem ho.nodup' hot'm
    · rcases hrel with rfl | hlt
      · exact hv
      · exact objectType_upgrade_value_space sem ot ot' hlt _ _ _ v hv
  added := List.forall_mem_map.mpr fun q' hq' =>
    (he.added q' hq').imp_left fun ⟨q, hq, hn⟩ => ⟨_, List.mem_map_of_mem (f := gProp ots) hq, hn⟩
  atts := List.forall_mem_map.mpr fun y hy => by
    obtain ⟨y', hy', hn, henc⟩ := he.atts y hy
    exact ⟨_, List.mem_map_of_mem (f := gAtt) hy', hn, by simp only [gAtt, henc]⟩

/-- C10: every event that is valid under the old definitions is valid under an accepted upgrade
of the event type and of the object types it uses. -/
theorem accepted_upgrade_keeps_events_valid (sem : RegexSem) (cls : String → Bool × Bool × Bool)
    (ots ots' : List ObjectTypeDef) (a b : EventTypeDef) (ha : EtWF a) (hb : EtWF b) (ho : OntUp ots ots')
    (h : b = a ∨ cmpEventType a b = .lt) (e : Event) (hv : validUnder sem cls ots a e = true) :
    validUnder sem cls ots' b e = true := by
  have he : EtUp a b := by
    rcases h with rfl | h
    · exact etUp_refl _
    · exact eventType_upgrade_facts a b ha h
  exact gate_mono _ _ _ _ (upgrade_GUp sem cls ots ots' a b ha hb ho he) e hv

/-! ### the sticky hash -/

theorem contains_hashed_iff (a : EventTypeDef) (ha : EtWF a) (q : PropDef) (hq : q ∈ a.props) :
    (hashedOfType a).contains q.name = true ↔ q.merge = "match" := by
  unfold hashedOfType
  simp only [List.contains_iff_mem, List.mem_map, List.mem_filter, beq_iff_eq]
  constructor
  · rintro ⟨q2, ⟨hq2, hm⟩, hn⟩
    exact nodup_map_inj ha.props hq2 hq hn ▸ hm
  · intro hm; exact ⟨q, ⟨hq, hm⟩, rfl⟩

theorem declared_of_valid (sem : RegexSem) (cls : String → Bool × Bool × Bool) (ots : List ObjectTypeDef)
    (a : EventTypeDef) (e : Event) (hv : validUnder sem cls ots a e = true) (pv : String × String)
    (hp : pv ∈ e.pairs) : ∃ q ∈ a.props, q.name = pv.1 := by
  obtain ⟨p, hpm, hpn⟩ := gate_declared hv hp
  obtain ⟨q, hq, rfl⟩ := List.mem_map.mp hpm
  exact ⟨q, hq, hpn⟩

/-- C10: an event that is valid under the old definition keeps its sticky hash under an accepted
upgrade (the merge strategies of existing properties are frozen; the event has no objects of added
properties). Only the event type changes: validity is judged under one `ots`. -/
theorem accepted_upgrade_keeps_hash (sem : RegexSem) (cls : String → Bool × Bool × Bool)
    (ots : List ObjectTypeDef) (a b : EventTypeDef) (ha : EtWF a) (hb : EtWF b)
    (h : cmpEventType a b = .lt) (e : Event) (hv : validUnder sem cls ots a e = true) :
    hashInput (hashedOfType b) e = hashInput (hashedOfType a) e := by
  have he := eventType_upgrade_facts a b ha h
  unfold hashInput objStrings
  have : (e.pairs.filter fun pv => (hashedOfType b).contains pv.1) = e.pairs.filter fun pv => (hashedOfType a).contains pv.1 := by
    apply List.filter_congr
    intro pv hpv
    obtain ⟨q, hq, hn⟩ := declared_of_valid sem cls ots a e hv pv hpv
    obtain ⟨q', hq', hn', _, hm, _⟩ := he.props q hq
    rw [Bool.eq_iff_iff, ← hn, contains_hashed_iff a ha q hq, ← hn', contains_hashed_iff b hb q' hq', hm]
  rw [this]

/-- C10: merging colliding events that are valid under the old definition gives the same result under an
accepted upgrade of the event type: the same object sets for every property, the same parents, or
the same error. Both merges read the object types from one `ots`: upgraded object types are not covered. -/
theorem accepted_upgrade_keeps_merge (sem : RegexSem) (cls : String → Bool × Bool × Bool)
    (ots : List ObjectTypeDef) (a b : EventTypeDef) (ha : EtWF a) (hb : EtWF b)
    (h : cmpEventType a b = .lt) (vp : Option String) (es : List Event)
    (hv : ∀ e ∈ es, validUnder sem cls ots a e = true) :
    (∀ r, mergeEvents (mergeSpecs ots a) vp es = .ok r → ∃ r', mergeEvents (mergeSpecs ots b) vp es = .ok r' ∧
        (∀ p, r'.objects p = r.objects p) ∧ r'.parents = r.parents ∧ r'.type = r.type ∧ r'.source = r.source ∧ r'.atts = r.atts) ∧
    (∀ err, mergeEvents (mergeSpecs ots a) vp es = .error err → mergeEvents (mergeSpecs ots b) vp es = .error err) := by
  have he := eventType_upgrade_facts a b ha h
  have names : ∀ (et : EventTypeDef), (mergeSpecs ots et).map (·.name) = et.props.map (·.name) := by
    intro et; simp [mergeSpecs, List.map_map, Function.comp_def]
  apply merge_spec_extension (mergeSpecs ots a) (mergeSpecs ots b) (by rw [names]; exact hb.props)
  · intro s hs
    simp only [mergeSpecs, List.mem_map] at hs ⊢
    obtain ⟨p, hp, rfl⟩ := hs
    obtain ⟨p', hp', hn, ho, hm, _⟩ := he.props p hp
    exact ⟨p', hp', by rw [hn, ho, hm]⟩
  · intro s' hs'
    simp only [mergeSpecs, List.mem_map] at hs' ⊢
    obtain ⟨p', hp', rfl⟩ := hs'
    by_cases hex : ∃ p ∈ a.props, p.name = p'.name
    · obtain ⟨p, hp, hpn⟩ := hex
      obtain ⟨p'', hp'', hn, ho, hm, _⟩ := he.props p hp
      obtain rfl := nodup_map_inj hb.props hp'' hp' (hn.trans hpn)
      exact .inl ⟨p, hp, by rw [hn, ho, hm]⟩
    · right
      intro e hee
      apply objects_absent_pairs
      intro pv hpv hname
      obtain ⟨q, hq, hqn⟩ := declared_of_valid sem cls ots a e (hv e hee) pv hpv
      exact hex ⟨q, hq, by rw [hqn]; exact hname⟩
  · rw [names]; exact ha.props

/-! ### rejected changes -/

/-- making an optional property mandatory, a multi-valued property single-valued, changing the
merge strategy or the object type of a property is never an accepted upgrade -/
theorem restricting_property_rejected (va vb : Nat) (p p' : PropDef)
    (h : (p.optional = true ∧ p'.optional = false) ∨ (p.multivalued = true ∧ p'.multivalued = false) ∨
      p.merge ≠ p'.merge ∨ p.objectType ≠ p'.objectType) : cmpProp va vb p p' ≠ .lt := by
  intro hl
  obtain ⟨-, e1, e2, e3, e4, -⟩ := cmpProp_lt_iff.mp hl
  rcases h with ⟨h1, h2⟩ | ⟨h1, h2⟩ | h | h
  · rw [e4 h1] at h2; cases h2
  · rw [e3 h1] at h2; cases h2
  · exact h e2
  · exact h e1

/-- removing a property, or adding a mandatory one, is never an accepted upgrade -/
theorem removing_property_rejected (a b : EventTypeDef) (ha : EtWF a) (p : PropDef) (hp : p ∈ a.props)
    (hgone : ∀ q ∈ b.props, q.name ≠ p.name) : cmpEventType a b ≠ .lt := by
  intro h
  obtain ⟨q, hq, hn, _⟩ := (eventType_upgrade_facts a b ha h).props p hp
  exact hgone q hq hn

theorem adding_mandatory_property_rejected (a b : EventTypeDef) (ha : EtWF a) (q : PropDef) (hq : q ∈ b.props)
    (hnew : ∀ p ∈ a.props, p.name ≠ q.name) (hm : q.optional = false) : cmpEventType a b ≠ .lt := by
  intro h
  rcases (eventType_upgrade_facts a b ha h).added q hq with ⟨p, hp, hn⟩ | ho
  · exact hnew p hp hn
  · rw [hm] at ho; cases ho

/-! ### Non-vacuity -/

def exOld : EventTypeDef :=
  { name := "t", version := 1, free := [], versionProp := none, seqProp := none, tsStart := none, tsEnd := none,
    parent := none,
    props := [{ name := "p", objectType := "o", merge := "match", optional := false, multivalued := false,
                datetime := false, free := [], assocs := [] }],
    relations := [], attachments := [] }

def exNew : EventTypeDef :=
  { name := "t", version := 2, free := [], versionProp := none, seqProp := none, tsStart := none, tsEnd := none,
    parent := none, relations := [], attachments := [],
    props := [{ name := "p", objectType := "o", merge := "match", optional := true, multivalued := true,
                datetime := false, free := [], assocs := [] },
              { name := "q", objectType := "o", merge := "any", optional := true, multivalued := false,
                datetime := false, free := [], assocs := [] }] }

example : cmpEventType exOld exNew = .lt := by decide
example : cmpObjectType ⟨"o", 1, [], some "a", "enum:a"⟩ ⟨"o", 2, [], some "a|b", "enum:a:b"⟩ = .lt := by decide +kernel

end EdxmlProps.C10
