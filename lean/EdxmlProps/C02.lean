/-
C02. Writer output is always readable; write/parse round trips are lossless.

* Character data: what lxml writes for element text and attribute values an XML parser reads back
  unchanged, for every string.
* Streams: whatever calls are made on a validating writer (model: `Stream/Writer.lean`), the
  validating parser machine (`Stream/Parser.lean`) accepts the children it wrote and delivers exactly
  the written events, in order. The last (`Agree.delivered`) is stated for a parser without handlers
  (`_parsed_event` overridden, the fallback only), which is what the correspondence runs.
* The pass-through filter (model: `Stream/Filter.lean`): what it writes parses to the same ontology and
  events as its input, and filtering it again reproduces it.
-/
import EdxmlModel.Stream.Writer
import EdxmlModel.Stream.Filter
import EdxmlProps.Lemmas.Parser
import EdxmlProps.Lemmas.ListSet
namespace EdxmlProps.C02
open Edxml

/-! The last equation of each definition; its side conditions only ask that the earlier patterns do
not match. -/

theorem unescapeText_other (c : Char) (r : List Char) (hamp : c ≠ '&') (hcr : c ≠ '\r') :
    unescapeText (c :: r) = c :: unescapeText r :=
  unescapeText.eq_11 c r (fun _ e _ => hamp e) (fun _ e _ => hamp e) (fun _ e _ => hamp e) (fun _ e _ => hamp e)
    (fun _ e _ => hamp e) (fun _ e _ => hamp e) (fun _ e _ => hamp e) (fun _ e _ => hcr e) hcr

theorem unescapeAttr_other (c : Char) (r : List Char) (hamp : c ≠ '&') (hcr : c ≠ '\r') (hlf : c ≠ '\n')
    (htab : c ≠ '\t') : unescapeAttr (c :: r) = c :: unescapeAttr r :=
  unescapeAttr.eq_13 c r (fun _ e _ => hamp e) (fun _ e _ => hamp e) (fun _ e _ => hamp e) (fun _ e _ => hamp e)
    (fun _ e _ => hamp e) (fun _ e _ => hamp e) (fun _ e _ => hamp e) (fun _ e _ => hcr e) hcr hlf htab

/-- C02: element text survives serialization and parsing, whatever characters it holds -/
theorem unescapeText_escapeText : ∀ s : List Char, unescapeText (escapeText s) = s := by
  intro s
  -- along the equations of `escapeText`: the last copies a character, the others compute
  induction s using escapeText.induct with
  | case6 c r hamp hlt hgt hcr ih => rw [escapeText.eq_6 c r hamp hlt hgt hcr, unescapeText_other c _ hamp hcr, ih]
  | _ => simp [escapeText, unescapeText, *]

/-- C02: so do attribute values (event type, source, parents, attachment ids, foreign attributes):
white space that attribute value normalisation would turn into spaces is written as character
references -/
theorem unescapeAttr_escapeAttr : ∀ s : List Char, unescapeAttr (escapeAttr s) = s := by
  intro s
  induction s using escapeAttr.induct with
  | case9 c r hamp hlt hgt hquot hlf htab hcr ih =>
    rw [escapeAttr.eq_9 c r hamp hlt hgt hquot hlf htab hcr, unescapeAttr_other c _ hamp hcr hlf htab, ih]
  | _ => simp [escapeAttr, unescapeAttr, *]

/-- escaped text never contains markup that would end the element or start another one -/
theorem escapeText_no_markup : ∀ s : List Char, '<' ∉ escapeText s := by
  intro s
  induction s using escapeText.induct with
  | case6 c r hamp hlt hgt hcr ih =>
    rw [escapeText.eq_6 c r hamp hlt hgt hcr]
    exact List.not_mem_cons_of_ne_of_not_mem (Ne.symm hlt) ih
  | _ => simp [escapeText, *]

example : unescapeText (escapeText "a<b>&\r\n\t ]]> é".toList) = "a<b>&\r\n\t ]]> é".toList := by decide +kernel
example : unescapeAttr (escapeAttr "a\"b\n\tc\r".toList) = "a\"b\n\tc\r".toList := by decide +kernel

def hasOnt (items : List Item) : Bool := items.any fun it => match it with | .ont .. => true | _ => false

/-- the parser has processed exactly what the writer wrote -/
structure Agree (reg : Registry) (w : WState) (p : PState) : Prop where
  ont : p.ont = if hasOnt w.out then some (w.types, w.sources) else none
  /-- before the first ontology element the parser holds `none`: the writer's tables must then be
  empty for the first element to merge to the same tables on both sides -/
  empty : hasOnt w.out = false → w.types = [] ∧ w.sources = []
  delivered : reg.overridden = true → reg.typeH = [] → reg.srcH = [] →
    p.log.filterMap EdxmlProps.C15.deliveredEvent = eventIdxs w.out

theorem eventIdxs_append (a b : List Item) : eventIdxs (a ++ b) = eventIdxs a ++ eventIdxs b :=
  List.filterMap_append

theorem hasOnt_append (a b : List Item) : hasOnt (a ++ b) = (hasOnt a || hasOnt b) := List.any_append

theorem wstep_event (v : Bool) (w : WState) (i : Nat) (t src : String) (g : Bool) :
    wstep v w (.addEvent i t src g) =
      match verdict v (some (w.types, w.sources)) (.event i t src g) with
      | some e => (w, some e)
      | none => ({ w with out := w.out ++ [.event i t src g] }, none) :=
  verdict_event_ite v w.types w.sources i t src g (fun e => (w, some e)) _

theorem wstep_cases (v : Bool) (w : WState) (op : WOp) {P : WState × Option PErr → Prop}
    (rejected : ∀ e, P (w, some e))
    (ont : ∀ ts ss,
      P ({ types := canonS (w.types ++ ts), sources := canonS (w.sources ++ ss), out := w.out ++ [.ont .ok ts ss] }, none))
    (event : ∀ i t src g, verdict v (some (w.types, w.sources)) (.event i t src g) = none →
      P ({ w with out := w.out ++ [.event i t src g] }, none))
    (foreign : ∀ i, P ({ w with out := w.out ++ [.foreign i] }, none)) :
    P (wstep v w op) := by
  cases op with
  | addForeign i => exact foreign i
  | addOntology ts ss ok =>
    cases ok with
    | false => exact rejected _
    | true => exact ont ts ss
  | addEvent i t src g =>
    rw [wstep_event]
    cases hv : verdict v (some (w.types, w.sources)) (.event i t src g) with
    | none => exact event i t src g hv
    | some e => exact rejected e

theorem rejected_call_writes_nothing (v : Bool) (w w' : WState) (op : WOp) (e : PErr)
    (h : wstep v w op = (w', some e)) : w' = w := by
  revert h
  exact wstep_cases v w op (P := fun r => r = (w', some e) → w' = w) (fun _ h => (Prod.mk.inj h).1.symm)
    (fun _ _ h => nomatch h) (fun _ _ _ _ _ h => nomatch h) (fun _ h => nomatch h)

theorem Agree.cur {reg : Registry} {w : WState} {p : PState} (ha : Agree reg w p) :
    p.ont.getD ([], []) = (w.types, w.sources) := by
  rw [ha.ont]
  cases h : hasOnt w.out with
  | true => rfl
  | false => obtain ⟨e1, e2⟩ := ha.empty h; rw [e1, e2]; rfl

theorem Agree.delivered_snoc {reg : Registry} {w : WState} {p : PState} (ha : Agree reg w p) (it : Item)
    (cbs : List Callback) (h1 : reg.overridden = true) (h2 : reg.typeH = []) (h3 : reg.srcH = [])
    (hc : cbs.filterMap EdxmlProps.C15.deliveredEvent = eventIdxs [it]) :
    (p.log ++ cbs).filterMap EdxmlProps.C15.deliveredEvent = eventIdxs (w.out ++ [it]) := by
  rw [List.filterMap_append, ha.delivered h1 h2 h3, eventIdxs_append, hc]

/-- The element written, `x`, need not be the `.ont .ok ts ss` that is read: a filter's writer writes the
accumulated ontology where its parser read `ts ss` (`fstep_agree`); either merges to the same tables. -/
theorem Agree.snoc_ont {reg : Registry} {w : WState} {p : PState} (ha : Agree reg w p) (ts ss : List String)
    (x : Item) (hx : ∃ k ts' ss', x = .ont k ts' ss') :
    Agree reg { types := canonS (w.types ++ ts), sources := canonS (w.sources ++ ss), out := w.out ++ [x] }
      (pstep reg p (.ont .ok ts ss)).1 := by
  obtain ⟨k, ts', ss', rfl⟩ := hx
  rw [pstep_eq]
  have hany : hasOnt (w.out ++ [.ont k ts' ss']) = true := by rw [hasOnt_append]; exact Bool.or_true _
  refine ⟨?_, fun h => (by rw [hany] at h; cases h), fun h1 h2 h3 => ha.delivered_snoc _ [_] h1 h2 h3 rfl⟩
  rw [hany]
  exact accept_ont reg ha.cur .ok ts ss

theorem Agree.snoc_event {reg : Registry} {w : WState} {p : PState} (ha : Agree reg w p) {i : Nat} {t src : String}
    {g : Bool} (hp : verdict reg.validate p.ont (.event i t src g) = none) :
    Agree reg { w with out := w.out ++ [.event i t src g] } (pstep reg p (.event i t src g)).1 := by
  have hany : hasOnt (w.out ++ [Item.event i t src g]) = hasOnt w.out := by rw [hasOnt_append]; exact Bool.or_false _
  rw [pstep_eq, hp]
  refine ⟨by show p.ont = _; rw [hany]; exact ha.ont, fun h => ha.empty (hany ▸ h),
    fun h1 h2 h3 => ha.delivered_snoc (.event i t src g) _ h1 h2 h3 ?_⟩
  rw [dispatch_overridden reg _ i t src h1 h2 h3]; rfl

theorem Agree.foreign {reg : Registry} {w : WState} {p : PState} (ha : Agree reg w p) (i : Nat) :
    Agree reg w (pstep reg p (.foreign i)).1 ∧
    Agree reg { w with out := w.out ++ [.foreign i] } (pstep reg p (.foreign i)).1 := by
  have hany : hasOnt (w.out ++ [Item.foreign i]) = hasOnt w.out := by rw [hasOnt_append]; exact Bool.or_false _
  have hd := fun h1 h2 h3 => ha.delivered_snoc (.foreign i) [Callback.foreign i] h1 h2 h3 rfl
  exact ⟨⟨ha.ont, ha.empty, fun h1 h2 h3 => (hd h1 h2 h3).trans (by rw [eventIdxs_append]; exact List.append_nil _)⟩,
    ⟨by show p.ont = _; rw [hany]; exact ha.ont, fun h => ha.empty (hany ▸ h), hd⟩⟩

theorem step_agree (reg : Registry) (v : Bool) (hv : reg.validate = true → v = true) (w w' : WState) (p : PState)
    (op : WOp) (hs : wstep v w op = (w', none)) (ha : Agree reg w p) :
    ∃ it, w'.out = w.out ++ [it] ∧ (pstep reg p it).2 = none ∧ Agree reg w' (pstep reg p it).1 := by
  revert hs
  refine wstep_cases v w op (P := fun r => r = (w', none) → _) (fun _ h => nomatch h) ?_ ?_ ?_
  · intro ts ss h
    cases h
    exact ⟨_, rfl, pstep_snd reg p _, ha.snoc_ont ts ss _ ⟨_, _, _, rfl⟩⟩
  · intro i t src g hw h
    cases h
    -- the parser's gate is no stricter than the writer's and sees the same definitions
    have hp := (verdict_getD ha.cur).mpr (verdict_mono hv hw)
    exact ⟨_, rfl, (pstep_snd reg p _).trans hp, ha.snoc_event hp⟩
  · intro i h
    cases h
    exact ⟨_, rfl, rfl, (ha.foreign i).2⟩

theorem wrun_cons (v : Bool) (w : WState) (op : WOp) (ops : List WOp) :
    wrun v w (op :: ops) = wrun v (wstep v w op).1 ops := rfl

/-- C02: for every session of a validating writer, whatever calls it accepted or rejected, the
validating parser reads the children it wrote without error and is left knowing the writer's
ontology, having delivered exactly the written events, in order. -/
theorem written_stream_parses (reg : Registry) (v : Bool) (hv : reg.validate = true → v = true) :
    ∀ (ops : List WOp) (w : WState) (p : PState), Agree reg w p → prun reg {} w.out = (p, none) →
      ∃ p', prun reg {} (wrun v w ops).out = (p', none) ∧ Agree reg (wrun v w ops) p'
  | [], _, p, ha, hp => ⟨p, hp, ha⟩
  | op :: ops, w, p, ha, hp => by
    rw [wrun_cons]
    cases hs : wstep v w op with
    | mk w' e =>
      cases e with
      | some err =>
        rw [rejected_call_writes_nothing v w w' op err hs]
        exact written_stream_parses reg v hv ops w p ha hp
      | none =>
        obtain ⟨it, hout, hstep, ha'⟩ := step_agree reg v hv w w' p op hs ha
        refine written_stream_parses reg v hv ops w' _ ha' ?_
        rw [hout, prun_append, hp]
        show prun reg p [it] = _
        rw [prun_cons, ← pstep_snd, hstep]
        rfl

theorem agree_init (reg : Registry) : Agree reg {} {} := ⟨rfl, fun _ => ⟨rfl, rfl⟩, fun _ _ _ => rfl⟩

theorem written_stream_parses_from_start (reg : Registry) (v : Bool) (hv : reg.validate = true → v = true)
    (ops : List WOp) :
    ∃ p', prun reg {} (wrun v {} ops).out = (p', none) ∧ Agree reg (wrun v {} ops) p' :=
  written_stream_parses reg v hv ops {} {} (agree_init reg) rfl

/-- C02: every written event was accepted by the writer's gate -/
theorem only_valid_events_written (v : Bool) (hv : v = true) : ∀ (ops : List WOp) (w : WState),
    (∀ it ∈ w.out, ∀ i t s g, it = Item.event i t s g → g = true) →
    ∀ it ∈ (wrun v w ops).out, ∀ i t s g, it = Item.event i t s g → g = true := by
  intro ops w h0
  refine List.foldlRecOn (motive := fun w : WState => ∀ it ∈ w.out, ∀ i t s g, it = Item.event i t s g → g = true) ops _ h0
    fun w h op _ => ?_
  -- a call leaves the children alone or appends one, which is no event or an event that passed the gate
  have snoc : ∀ x : Item, (∀ i t s g, x = Item.event i t s g → g = true) →
      ∀ it ∈ w.out ++ [x], ∀ i t s g, it = Item.event i t s g → g = true := fun x hx it hit =>
    (List.mem_append.mp hit).elim (h it) fun hm => List.mem_singleton.mp hm ▸ hx
  refine wstep_cases v w op (P := fun r => ∀ it ∈ r.1.out, ∀ i t s g, it = Item.event i t s g → g = true)
    (fun _ => h) (fun _ _ => snoc _ fun _ _ _ _ he => nomatch he) (fun i t src g hw => snoc _ ?_)
    (fun _ => snoc _ fun _ _ _ _ he => nomatch he)
  intro i' t' s' g' he
  cases he
  obtain ⟨_, _, _, _, _, hg⟩ := verdict_event_eq_none.mp hw
  rw [hv] at hg
  simpa using hg

example : (wrun true {} [.addEvent 0 "t" "/s/" true, .addOntology ["t"] ["/s/"] true, .addEvent 1 "t" "/s/" true,
    .addEvent 2 "t" "/s/" false, .addEvent 3 "u" "/s/" true, .addEvent 4 "t" "/s/" true]).out =
    [.ont .ok ["t"] ["/s/"], .event 1 "t" "/s/" true, .event 4 "t" "/s/" true] := by decide +kernel

/-- what the filter output looks like: every ontology element holds everything defined so far, every
event is of a defined type and source (and valid, when validating), nothing else -/
def SelfAcc (v : Bool) : List String × List String → List Item → Prop
  | _, [] => True
  | cur, .ont o ts ss :: r => o = .ok ∧ canonS (cur.1 ++ ts) = ts ∧ canonS (cur.2 ++ ss) = ss ∧ SelfAcc v (ts, ss) r
  | cur, .event _ t s g :: r => cur.2.contains s = true ∧ cur.1.contains t = true ∧ (v && !g) = false ∧ SelfAcc v cur r
  | _, .foreign _ :: _ => False

theorem selfAcc_append (v : Bool) : ∀ (a b : List Item) (cur : List String × List String),
    SelfAcc v cur (a ++ b) ↔ SelfAcc v cur a ∧ SelfAcc v (a.foldl (fun c it => match it with | .ont _ ts ss => (ts, ss) | _ => c) cur) b := by
  intro a b cur
  fun_induction SelfAcc v cur a with
  | case1 => exact ⟨fun h => ⟨trivial, h⟩, fun h => h.2⟩
  | case2 cur o ts ss r ih | case3 cur i t s g r ih => simp only [List.cons_append, SelfAcc, List.foldl_cons, ih, and_assoc]
  | case4 => exact ⟨False.elim, fun h => h.1⟩

/-- Parser and writer of a filter hold the same definitions: all that the filter lemmas need of
`Agree (filterReg v) s.w s.p` (`Agree.cur`). Unlike `Agree` it says nothing about the output written,
so `filter_replays` and `filter_output_shape` can start from any such state. -/
def Sync (s : FState) : Prop := s.p.ont.getD ([], []) = (s.w.types, s.w.sources)

theorem canonS_absorb (a b : List String) : canonS (a ++ canonS (a ++ b)) = canonS (a ++ b) := by
  rw [canonS_eq_iff]
  intro x
  simp only [List.mem_append, mem_canonS]
  exact ⟨fun h => h.elim Or.inl id, Or.inr⟩

theorem Sync.pstep_ont {v : Bool} {s : FState} (hs : Sync s) (ts ss : List String) :
    (pstep (filterReg v) s.p (.ont .ok ts ss)).1.ont =
      some (canonS (s.w.types ++ ts), canonS (s.w.sources ++ ss)) := by
  rw [pstep_eq]
  exact accept_ont _ hs .ok ts ss

theorem fstep_ont (v : Bool) {s : FState} (ts ss : List String) (hs : Sync s) :
    fstep v s (.ont .ok ts ss) =
      ({ p := (pstep (filterReg v) s.p (.ont .ok ts ss)).1,
         w := { types := canonS (s.w.types ++ ts), sources := canonS (s.w.sources ++ ss),
                out := s.w.out ++ [.ont .ok (canonS (s.w.types ++ ts)) (canonS (s.w.sources ++ ss))] } }, none) := by
  simp only [fstep, pstep_snd, verdict, hs.pstep_ont, Option.getD_some, wstep, if_true, canonS_absorb]

/-- an event that the parser lets through passes the writer's gate as well, and is written -/
theorem fstep_event (v : Bool) {s : FState} {i : Nat} {t src : String} {g : Bool}
    (hs : Sync s) (hv : verdict v s.p.ont (.event i t src g) = none) :
    fstep v s (.event i t src g) =
      ({ p := (pstep (filterReg v) s.p (.event i t src g)).1,
         w := { s.w with out := s.w.out ++ [.event i t src g] } }, none) := by
  simp only [fstep, pstep_snd, filterReg, hv, wstep_event, (verdict_getD hs).mp hv]

theorem fstep_snd (v : Bool) {s : FState} (hs : Sync s) (it : Item) :
    (fstep v s it).2 = verdict v s.p.ont it := by
  cases hv : verdict v s.p.ont it with
  | some e => simp only [fstep, pstep_snd, filterReg, hv]
  | none =>
    cases it with
    | ont k ts ss => obtain rfl := verdict_ont_eq_none.mp hv; rw [fstep_ont v ts ss hs]
    | event i t src g => rw [fstep_event v hs hv]
    | foreign i => rfl

theorem frun_cons_ok (v : Bool) {s : FState} (hs : Sync s) (it : Item) (rest : List Item) (s' : FState) :
    frun v s (it :: rest) = (s', none) ↔ verdict v s.p.ont it = none ∧ frun v (fstep v s it).1 rest = (s', none) := by
  rw [← fstep_snd v hs, frun]
  cases fstep v s it with
  | mk a b =>
    cases b with
    | none => exact ⟨fun h => ⟨rfl, h⟩, fun h => h.2⟩
    | some e => exact ⟨fun h => (by cases h), fun h => (by cases h.1)⟩

theorem Sync.step {v : Bool} {s : FState} {it : Item} (hs : Sync s) (hv : verdict v s.p.ont it = none) :
    Sync (fstep v s it).1 := by
  cases it with
  | ont k ts ss =>
    obtain rfl := verdict_ont_eq_none.mp hv
    rw [fstep_ont v ts ss hs]
    exact congrArg (·.getD ([], [])) (hs.pstep_ont ts ss)
  | event i t src g =>
    rw [fstep_event v hs hv, Sync, pstep_eq]
    split <;> exact hs
  | foreign i => exact hs

theorem filter_replays (v : Bool) : ∀ (items : List Item) (s : FState),
    Sync s → SelfAcc v (s.w.types, s.w.sources) items → ∃ s', frun v s items = (s', none) ∧ s'.w.out = s.w.out ++ items
  | [], s, _, _ => ⟨s, rfl, (List.append_nil _).symm⟩
  | .ont o ts ss :: r, s, hs, ha => by
    obtain ⟨rfl, h1, h2, h3⟩ := ha
    obtain ⟨s2, f1, f2⟩ := filter_replays v r _ (hs.step (v := v) (it := .ont .ok ts ss) rfl)
      (by rw [fstep_ont v ts ss hs, h1, h2]; exact h3)
    refine ⟨s2, (frun_cons_ok v hs _ r s2).mpr ⟨rfl, f1⟩, ?_⟩
    rw [f2, fstep_ont v ts ss hs, h1, h2, List.append_assoc]; rfl
  | .event i t src g :: r, s, hs, ha => by
    obtain ⟨h1, h2, h3, h4⟩ := ha
    have hv : verdict v s.p.ont (.event i t src g) = none :=
      (verdict_getD hs).mpr (verdict_event_eq_none.mpr ⟨_, _, rfl, h1, h2, h3⟩)
    obtain ⟨s2, f1, f2⟩ := filter_replays v r _ (hs.step hv) (by rw [fstep_event v hs hv]; exact h4)
    refine ⟨s2, (frun_cons_ok v hs _ r s2).mpr ⟨hv, f1⟩, ?_⟩
    rw [f2, fstep_event v hs hv, List.append_assoc]; rfl
  | .foreign i :: r, _, _, ha => by cases ha

theorem filter_output_shape (v : Bool) : ∀ (items : List Item) (s s' : FState),
    Sync s → frun v s items = (s', none) → ∃ d, s'.w.out = s.w.out ++ d ∧ SelfAcc v (s.w.types, s.w.sources) d
  | [], s, s', _, h => by
    cases h
    exact ⟨[], (List.append_nil _).symm, trivial⟩
  | it :: r, s, s', hs, h => by
    obtain ⟨hv, h⟩ := (frun_cons_ok v hs it r s').mp h
    obtain ⟨d, f1, f2⟩ := filter_output_shape v r _ s' (hs.step hv) h
    cases it with
    | ont k ts ss =>
      obtain rfl := verdict_ont_eq_none.mp hv
      rw [fstep_ont v ts ss hs] at f1 f2
      exact ⟨_, f1.trans (List.append_assoc ..), rfl, canonS_absorb _ _, canonS_absorb _ _, f2⟩
    | event i t src g =>
      rw [fstep_event v hs hv] at f1 f2
      obtain ⟨_, _, ho, h⟩ := verdict_event_eq_none.mp ((verdict_getD hs).mp hv)
      cases ho
      exact ⟨_, f1.trans (List.append_assoc ..), h.1, h.2.1, h.2.2, f2⟩
    | foreign i => exact ⟨d, f1, f2⟩

theorem filterOut_eq_some {v : Bool} {items out : List Item} :
    filterOut v items = some out ↔ ∃ s, frun v {} items = (s, none) ∧ s.w.out = out := by
  unfold filterOut
  cases frun v {} items with
  | mk s e =>
    cases e with
    | none => exact ⟨fun h => ⟨s, rfl, Option.some.inj h⟩, fun ⟨_, h1, h2⟩ => by cases h1; exact congrArg some h2⟩
    | some _ => exact ⟨fun h => (by cases h), fun ⟨_, h1, _⟩ => (by cases h1)⟩

/-- C02: filtering the output of the pass-through filter reproduces it -/
theorem filter_idempotent (v : Bool) (items out : List Item) (h : filterOut v items = some out) :
    filterOut v out = some out := by
  obtain ⟨s, hr, rfl⟩ := filterOut_eq_some.mp h
  obtain ⟨d, f1, f2⟩ := filter_output_shape v items {} s rfl hr
  obtain ⟨s2, g1, g2⟩ := filter_replays v d {} rfl f2
  rw [show s.w.out = d from f1]
  exact filterOut_eq_some.mpr ⟨s2, g1, g2⟩

/-- what holds between the filter's parser (which reads the input), its writer, and a parser that
reads what the writer wrote -/
structure FInv (v : Bool) (s : FState) (pout : PState) : Prop where
  parsed : prun (filterReg v) {} s.w.out = (pout, none)
  agree : Agree (filterReg v) s.w pout
  delivered : s.p.log.filterMap EdxmlProps.C15.deliveredEvent = eventIdxs s.w.out
  hasOnt : hasOnt s.w.out = s.p.ont.isSome

/-- The filter's own parser agrees with the writer it drives, as a parser that reads the output does. -/
theorem fstep_agree {v : Bool} {s : FState} {it : Item} (ha : Agree (filterReg v) s.w s.p)
    (hv : verdict v s.p.ont it = none) : Agree (filterReg v) (fstep v s it).1.w (fstep v s it).1.p := by
  have hs : Sync s := ha.cur
  cases it with
  | ont k ts ss =>
    obtain rfl := verdict_ont_eq_none.mp hv
    rw [fstep_ont v ts ss hs]
    exact ha.snoc_ont ts ss _ ⟨_, _, _, rfl⟩
  | event i t src g =>
    rw [fstep_event v hs hv]
    exact ha.snoc_event hv
  | foreign i => exact (ha.foreign i).1

theorem fstep_p (v : Bool) (s : FState) (it : Item) : (fstep v s it).1.p = (pstep (filterReg v) s.p it).1 := by
  fun_cases fstep v s it <;> rfl

/-- the filter's writer takes part in a writer session: every step makes one call, or none -/
theorem fstep_w (v : Bool) (s : FState) (it : Item) : ∃ ops, (fstep v s it).1.w = wrun v s.w ops := by
  fun_cases fstep v s it with
  | case2 | case3 => exact ⟨[_], rfl⟩ -- an ontology element, an event: one call
  | _ => exact ⟨[], rfl⟩ -- refused by the parser, or a foreign element: none

theorem frun_inv (v : Bool) : ∀ (items : List Item) (s s' : FState), Agree (filterReg v) s.w s.p →
    frun v s items = (s', none) →
      prun (filterReg v) s.p items = (s'.p, none) ∧ Agree (filterReg v) s'.w s'.p ∧ ∃ ops, s'.w = wrun v s.w ops
  | [], s, s', ha, h => by
    cases h
    exact ⟨rfl, ha, [], rfl⟩
  | it :: r, s, s', ha, h => by
    obtain ⟨hv, h⟩ := (frun_cons_ok v ha.cur it r s').mp h
    obtain ⟨hp, ha', ops', hw'⟩ := frun_inv v r _ s' (fstep_agree ha hv) h
    obtain ⟨ops, hw⟩ := fstep_w v s it
    rw [fstep_p] at hp
    refine ⟨?_, ha', ops ++ ops', by rw [hw', hw]; exact (List.foldl_append ..).symm⟩
    rw [prun_cons, show verdict (filterReg v).validate s.p.ont it = none from hv]
    exact hp

theorem frun_finv (v : Bool) (items : List Item) (s : FState) (hr : frun v {} items = (s, none)) :
    prun (filterReg v) {} items = (s.p, none) ∧ Agree (filterReg v) s.w s.p ∧ ∃ pout, FInv v s pout := by
  obtain ⟨hin, ha, ops, hw⟩ := frun_inv v items {} s (agree_init _) hr
  obtain ⟨pout, hp, hb⟩ := written_stream_parses_from_start (filterReg v) v (fun h => h) ops
  rw [← hw] at hp hb
  exact ⟨hin, ha, pout, hp, hb, ha.delivered rfl rfl rfl, by rw [ha.ont]; cases hasOnt s.w.out <;> rfl⟩

/-- C02: a parser accepts what the pass-through filter writes for a document it accepts, and ends up
with the same ontology and delivers the same events in the same order as a parser of the input -/
theorem filter_lossless (v : Bool) (items out : List Item) (h : filterOut v items = some out) :
    ∃ pin pout, prun (filterReg v) {} items = (pin, none) ∧ prun (filterReg v) {} out = (pout, none) ∧
      pout.ont = pin.ont ∧
      pout.log.filterMap EdxmlProps.C15.deliveredEvent = pin.log.filterMap EdxmlProps.C15.deliveredEvent := by
  obtain ⟨s, hr, rfl⟩ := filterOut_eq_some.mp h
  obtain ⟨hin, ha, pout, k⟩ := frun_finv v items s hr
  exact ⟨s.p, pout, hin, k.parsed, k.agree.ont.trans ha.ont.symm,
    (k.agree.delivered rfl rfl rfl).trans k.delivered.symm⟩

end EdxmlProps.C02
