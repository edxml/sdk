/-
C07. Event representations are interchangeable and stay coherent under mutation.

The XML-backed representation (model: `EdxmlModel/Event/Mutation.lean`) refines a dictionary of
sets (`specProps`) as far as properties go. Attachments are covered for the callback
`__update_attachment` alone (`attValue_updateAtt`), not for the public mutations built from it;
parents and foreign attributes have no specification here. The element never holds duplicates; in a
run over several live events a mutation changes the one it names.
-/
import EdxmlModel.Event.Mutation
import EdxmlProps.Lemmas.Objects
namespace EdxmlProps.C07
open Edxml Edxml.Mut

/-- a dictionary of sets, as a function from property names to canonical object sets -/
abbrev Dict := String → List String

/-- What a Python dict built from the assignments `ps` one after the other holds for `p`. -/
def lastFor (ps : List (String × List String)) (p : String) : Option (List String) :=
  (ps.reverse.find? (·.1 == p)).map (·.2)

def specProps (d : Dict) : Op → Dict
  | .setProp k vs => fun p => if p = k then canonS vs else d p
  | .delProp k => fun p => if p = k then [] else d p
  | .addObj k v => fun p => if p = k then canonS (d k ++ [v]) else d p
  | .removeObj k v => fun p => if p = k then canonS ((d k).filter (· != v)) else d p
  | .updateObjs k vs => fun p => if p = k then canonS (d k ++ vs) else d p
  | .clearObjs k => fun p => if p = k then [] else d p
  | .setProperties ps => fun p => match lastFor ps p with
    | some vs => canonS vs
    | none => []
  | _ => d

theorem specProps_setProperties (d : Dict) (ps : List (String × List String)) :
    specProps d (.setProperties ps) =
      ps.foldl (fun d pv p => if p = pv.1 then canonS pv.2 else d p) fun _ => [] := by
  funext p
  simp only [specProps, lastFor]
  -- `lastFor` looks from the end, so the fold is taken from that end, too
  rw [← List.foldr_reverse]
  induction ps.reverse with
  | nil => rfl
  | cons a r ih =>
    rw [List.foldr_cons, List.find?_cons]
    cases h : a.1 == p with
    | true => rw [if_pos (beq_iff_eq.mp h).symm]; rfl
    | false => rw [if_neg (Ne.symm (beq_eq_false_iff_ne.mp h)), ih]

theorem objects_updateProp (x : XmlEv) (k : String) (vs : List String) (p : String) :
    (updateProp x k vs).objects p = if p = k then canonS vs else x.objects p := by
  unfold XmlEv.objects
  split <;> refine (canonS_eq_iff _ _).mpr fun v => ?_ <;> rw [mem_objList]
  next h => simp [updateProp, mem_firstOccurrences, h]
  next h => rw [mem_objList]; simp [updateProp, h, Ne.symm h]

theorem objects_updateAtt (x : XmlEv) (n : String) (i v : Option String) :
    (updateAtt x n i v).objects = x.objects := by
  cases i <;> cases v <;> rfl

theorem canonS_objects (x : XmlEv) (p : String) : canonS (x.objects p) = x.objects p := by
  unfold XmlEv.objects; exact canonS_idem _

theorem objects_empty_props (x : XmlEv) (p : String) : ({ x with props := [] } : XmlEv).objects p = [] := rfl

/-- Every public mutation is a run of `__update_property` and `__update_attachment`, on the element
or (`set_properties`) on the element without its property children, and `specProps` is the same run
on the dictionary, where the first callback assigns and the second does nothing. `start` is there
because type, source, parents and foreign attributes lie outside both child lists; it asks for a
sublist of the property children, which covers both starting points and is what `WF` survives. -/
theorem step_sim {R : XmlEv → Dict → Prop} (x : XmlEv) (op : Op)
    (start : ∀ y : XmlEv, y.props.Sublist x.props → y.atts = x.atts → R y y.objects)
    (prop : ∀ y d k vs, R y d → R (updateProp y k vs) fun p => if p = k then canonS vs else d p)
    (att : ∀ y d n i v, R y d → R (updateAtt y n i v) d) :
    R (step x op) (specProps x.objects op) := by
  have hx : R x x.objects := start x (.refl _) rfl
  have setAtt (y d n items) (hy : R y d) : R (setAttachment y n items) d :=
    List.foldlRecOn (motive := (R · d)) items _ (att y d n none none hy) fun z hz _ _ => att z d n _ _ hz
  cases op with
  | setProp k vs | delProp k | addObj k v | removeObj k v | updateObjs k vs | clearObjs k =>
    exact prop x _ k _ hx
  | setProperties ps =>
    rw [specProps_setProperties]
    exact List.foldl_rel (start _ (List.nil_sublist _) rfl) fun pv _ y d h => prop y d pv.1 pv.2 h
  | setAttachment n items => exact setAtt x _ n items hx
  | delAttachment n | setAttValue n i v | delAttValue n i => unfold step; exact att x _ n _ _ hx
  | setAttachments as =>
    exact List.foldlRecOn (motive := (R · x.objects)) as _ hx fun y hy a _ => setAtt y _ a.1 a.2 hy
  | setParents ps | addParents ps | setType t | setSource s | setForeign kv | read =>
    exact start _ (.refl _) rfl

/-- C07 for properties: after every public mutation, what the `<event>` element holds for any
property is what the same mutation gives on the dictionary of sets. -/
theorem xml_refines_dict (x : XmlEv) (op : Op) : (step x op).objects = specProps x.objects op :=
  step_sim (R := fun y d => y.objects = d) x op (fun _ _ _ => rfl)
    (fun y _ k vs h => h ▸ funext (objects_updateProp y k vs))
    (fun y _ n i v h => h ▸ objects_updateAtt y n i v)

theorem reads_do_not_change (x : XmlEv) : step x .read = x := rfl

theorem setProp_idempotent (x : XmlEv) (k : String) (vs : List String) :
    (step (step x (.setProp k vs)) (.setProp k vs)).objects = (step x (.setProp k vs)).objects := by
  rw [xml_refines_dict, xml_refines_dict]
  funext p
  simp only [specProps]
  split <;> rfl

theorem props_ops_only_touch_their_property (x : XmlEv) (k v : String) (vs : List String) (p : String) (h : p ≠ k) :
    (step x (.setProp k vs)).objects p = x.objects p ∧ (step x (.delProp k)).objects p = x.objects p ∧
    (step x (.addObj k v)).objects p = x.objects p ∧ (step x (.removeObj k v)).objects p = x.objects p ∧
    (step x (.updateObjs k vs)).objects p = x.objects p ∧ (step x (.clearObjs k)).objects p = x.objects p := by
  simp only [xml_refines_dict, specProps, if_neg h, and_self]

/-- `__update_attachment(n, id, value)` as seen from the value `(n', i')`; without an identifier
the call names every value of attachment `n`, and a value given without one is not stored. -/
theorem attValue_updateAtt (x : XmlEv) (n : String) (id value : Option String) (n' i' : String) :
    (updateAtt x n id value).attValue n' i' =
      if n' = n ∧ ∀ i ∈ id, i' = i then id.bind fun _ => value else x.attValue n' i' := by
  have key {a : String × String × String} (ha : (a.1 == n' && a.2.1 == i') = true) :
      a.1 = n' ∧ a.2.1 = i' := by simpa using ha
  unfold XmlEv.attValue
  cases id with
  | none =>
    have e : (updateAtt x n none value).atts = x.atts.filter (·.1 != n) := by cases value <;> rfl
    rw [e]
    by_cases h : n' = n
    · rw [if_pos ⟨h, fun _ hi => nomatch hi⟩, find?_filter_none]; rfl
      exact fun a ha => by simp [(key ha).1, h]
    · rw [if_neg fun c => h c.1, find?_filter_keep]
      exact fun a ha => by simp [(key ha).1, h]
  | some i =>
    have e : (updateAtt x n (some i) value).atts =
        x.atts.filter (fun a => !(a.1 == n && a.2.1 == i)) ++ (value.map (n, i, ·)).toList := by
      cases value <;> simp [updateAtt]
    rw [e, List.find?_append]
    cases hb : (n' == n && i' == i) with
    | true =>
      have h : n' = n ∧ i' = i := by simpa using hb
      rw [if_pos ⟨h.1, fun _ hi => Option.some.inj hi ▸ h.2⟩, find?_filter_none]
      · cases value <;> simp [h]
      · exact fun a ha => by rw [(key ha).1, (key ha).2, hb]; rfl
    | false =>
      have h : ¬(n' = n ∧ i' = i) := by simpa using hb
      rw [if_neg fun c => h ⟨c.1, c.2 i rfl⟩, find?_filter_keep]
      · have h' : ¬(n = n' ∧ i = i') := fun c => h ⟨c.1.symm, c.2.symm⟩
        cases value <;> simp [h']
      · exact fun a ha => by rw [(key ha).1, (key ha).2, hb]; rfl

theorem attValue_updateAtt_set (x : XmlEv) (n i v n' i' : String) :
    (updateAtt x n (some i) (some v)).attValue n' i' =
      if n' = n ∧ i' = i then some v else x.attValue n' i' := by
  simpa using attValue_updateAtt x n (some i) (some v) n' i'

theorem attValue_updateAtt_del (x : XmlEv) (n i n' i' : String) :
    (updateAtt x n (some i) none).attValue n' i' = if n' = n ∧ i' = i then none else x.attValue n' i' := by
  simpa using attValue_updateAtt x n (some i) none n' i'

theorem attValue_delAttachment (x : XmlEv) (n n' i' : String) :
    (updateAtt x n none none).attValue n' i' = if n' = n then none else x.attValue n' i' := by
  simpa using attValue_updateAtt x n none none n' i'

structure WF (x : XmlEv) : Prop where
  props : x.props.Nodup
  atts : (x.atts.map fun a => (a.1, a.2.1)).Nodup

theorem wf_updateProp (x : XmlEv) (k : String) (vs : List String) (h : WF x) : WF (updateProp x k vs) := by
  refine ⟨List.nodup_append.mpr ⟨h.props.filter _, ?_, ?_⟩, h.atts⟩
  · exact List.Pairwise.map _ (fun a b hab e => hab (Prod.mk.inj e).2) (nodup_firstOccurrences vs)
  · intro a ha b hb e
    subst e
    obtain ⟨v, _, rfl⟩ := List.mem_map.mp hb
    simpa using (List.mem_filter.mp ha).2

theorem wf_updateAtt (x : XmlEv) (n : String) (i v : Option String) (h : WF x) : WF (updateAtt x n i v) := by
  have kept (r : String × String × String → Bool) :
      ((x.atts.filter r).map fun a => (a.1, a.2.1)).Nodup := h.atts.sublist (List.filter_sublist.map _)
  cases i with
  | none => cases v <;> exact ⟨h.props, kept _⟩
  | some i =>
    cases v with
    | none => exact ⟨h.props, kept _⟩
    | some v =>
      -- the pair that is added was filtered out
      refine ⟨h.props, ?_⟩
      simp only [updateAtt, List.map_append, List.map_cons, List.map_nil]
      refine List.nodup_append.mpr ⟨kept _, List.pairwise_singleton _ _, ?_⟩
      intro a ha b hb e
      obtain ⟨c, hc, rfl⟩ := List.mem_map.mp ha
      rw [← e, List.mem_singleton, Prod.mk.injEq] at hb
      simpa [hb.1, hb.2] using (List.mem_filter.mp hc).2

/-- C07: whatever is done to the event through its public interface, the XML element handed to
writers holds no duplicate objects and no duplicate attachment identifiers. -/
theorem element_has_no_duplicates (x : XmlEv) (op : Op) (h : WF x) : WF (step x op) :=
  step_sim (R := fun y _ => WF y) x op (fun _ hp ha => ⟨h.props.sublist hp, ha ▸ h.atts⟩)
    (fun y _ k vs => wf_updateProp y k vs) (fun y _ n i v => wf_updateAtt y n i v)

/-- the specification of a run: one dictionary per live object -/
def specCmd (ds : List Dict) : Cmd → List Dict
  | .op i o => match ds[i]? with
    | some d => ds.set i (specProps d o)
    | none => ds
  | .copy i => match ds[i]? with
    | some d => ds ++ [d]
    | none => ds

theorem runCmd_refines (xs : List XmlEv) (c : Cmd) :
    (runCmd xs c).map (·.objects) = specCmd (xs.map (·.objects)) c := by
  cases c with
  | op i o =>
    simp only [runCmd, specCmd, List.getElem?_map]
    cases xs[i]? with
    | none => rfl
    | some x => simp only [Option.map_some, List.map_set, xml_refines_dict]
  | copy i =>
    simp only [runCmd, specCmd, List.getElem?_map]
    cases xs[i]? with
    | none => rfl
    | some x => simp only [Option.map_some, List.map_append, List.map_cons, List.map_nil]

/-- C07: for every sequence of mutations and copies, applied to the original or to any copy, every
live XML-backed event holds what the dictionary-of-sets model holds. -/
theorem run_refines (cs : List Cmd) : ∀ (xs : List XmlEv),
    (run xs cs).map (·.objects) = cs.foldl specCmd (xs.map (·.objects)) :=
  fun _ => (List.foldl_hom (List.map (·.objects)) fun xs c => (runCmd_refines xs c).symm).symm

/-- `runCmd` holds the live events as values in a list: sharing between a copy and its original
cannot be expressed in this model, and whether the SDK's copies behave like these values is left to
the correspondence check. -/
theorem copy_independent (xs : List XmlEv) (i j : Nat) (o : Op) (h : i ≠ j) :
    (runCmd xs (.op i o))[j]? = xs[j]? := by
  simp only [runCmd]
  cases xs[i]? with
  | none => rfl
  | some x => exact List.getElem?_set_ne h

theorem copy_equal (xs : List XmlEv) (i : Nat) (x : XmlEv) (h : xs[i]? = some x) :
    (runCmd xs (.copy i))[xs.length]? = some x := by
  simp [runCmd, h]

/-! ### Non-vacuity -/

example : WF { type := "t", source := "/s/", props := [("p", "a"), ("p", "b")], atts := [("x", "i", "v")] } :=
  ⟨by decide, by decide⟩
example : (step { type := "t", source := "/s/", props := [("p", "a"), ("q", "c")] } (.addObj "p" "b")).props =
    [("q", "c"), ("p", "a"), ("p", "b")] := by decide +kernel

end EdxmlProps.C07
