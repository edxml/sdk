/-
C08. Ontology <-> XML round trip is lossless.

Model: `EdxmlModel/Ontology/XmlCodec.lean`: the attribute rules of the `generate_xml` /
`create_from_xml` pairs. Reading back what was written gives the in-memory record, for every record in
normal form (`decode_encode`). Every record the parser holds is written like one in normal form
(`normal_form`), so the second parse-serialize cycle is the identity for every element the parser
accepts whose required event type attributes are not empty (`NonEmptyRequired`: an event type with
`name=""` is accepted, written without the attribute, and then refused). The side conditions on a rule
table hold for those of the SDK's element classes (`tables_ok`). The element tree (`XmlTree.lean`) is
cycled container by container.
-/
import EdxmlModel.Ontology.XmlCodec
import EdxmlModel.Ontology.XmlTree
import EdxmlProps.Lemmas.Digits
import EdxmlProps.Lemmas.XmlTree
import EdxmlProps.Lemmas.Keyed
namespace EdxmlProps.C08
open Edxml Edxml.Gate Edxml.Codec
open EdxmlProps.XmlTree

/-- the in-memory record of an element: one entry per attribute of the table -/
def recOf (table : List ASpec) (f : String → Option String) : Rec := table.map fun s => (s.name, f s.name)

theorem lookupR_recOf (table : List ASpec) (f : String → Option String) (n : String) :
    lookupR (recOf table f) n = if n ∈ table.map (·.name) then f n else none := by
  rw [lookupR, recOf, find?_key_map_fun]
  split <;> rfl

/-- normal form of one attribute value -/
def ValOk (s : ASpec) (v : Option String) : Prop :=
  match v with
  | some x => canonVal s.kind x = some x ∧
      (match s.rule with
       | .dfltNone d => x ≠ d
       | .falsyReq | .falsyOpt => x ≠ ""
       | _ => True)
  | none => s.rule = .opt ∨ (∃ d, s.rule = .dfltNone d) ∨ s.rule = .falsyOpt

/-- a record in normal form: values rendered canonically, `None` only where the class allows it,
and attributes behind a closed guard at their default -/
def Conform (table : List ASpec) (f : String → Option String) : Prop :=
  ∀ s ∈ table, ValOk s (f s.name) ∧
    (guardOpen (recOf table f) s = false → ∃ d, (s.rule = .always d ∨ s.rule = .dflt d) ∧ f s.name = some d)

/-- `readBack` is not involved: what it makes of the written value is `readBack_written` -/
theorem written_value_is_read_back (table : List ASpec) (hn : (table.map (·.name)).Nodup) (r : Rec) :
    ∀ s ∈ table, lookupA (encode table r) s.name = written r s := by
  intro s hs
  rw [lookupA, encode, find?_key_table (written r) hn hs]
  cases written r s <;> rfl

theorem readBack_written (table : List ASpec) (hn : (table.map (·.name)).Nodup) (f : String → Option String)
    (hc : Conform table f) : ∀ s ∈ table,
    readBack (encode table (recOf table f)) s = some (f s.name) := by
  intro s hs
  obtain ⟨hv, hg⟩ := hc s hs
  rw [readBack, written_value_is_read_back table hn _ s hs, written, lookupR_recOf, if_pos (List.mem_map_of_mem hs)]
  cases hgo : guardOpen (recOf table f) s with
  | false =>
    obtain ⟨d, hr, hf⟩ := hg hgo
    rcases hr with hr | hr <;> simp [hr, hf]
  | true =>
    generalize f s.name = v at hv
    rcases v with _ | x
    · rcases hv with h | ⟨d, h⟩ | h <;> simp [h]
    · obtain ⟨hcan, hrule⟩ := hv
      cases hr : s.rule with
      -- the default is left out and filled in again; everything else in normal form is written
      | dflt d => by_cases hx : x = d <;> simp [hx, hcan]
      | _ => simp [hr] at hrule; simp [hrule, hcan]

/-- C08: `create_from_xml(generate_xml(x))` is `x`, for every element class whose attribute names
are unique and every record in normal form. -/
theorem decode_encode (table : List ASpec) (hn : (table.map (·.name)).Nodup) (f : String → Option String)
    (hc : Conform table f) : decode table (encode table (recOf table f)) = some (recOf table f) :=
  mapM_some _ fun s hs => by rw [readBack_written table hn f hc s hs]; rfl

theorem encode_decode_encode (table : List ASpec) (hn : (table.map (·.name)).Nodup) (f : String → Option String)
    (hc : Conform table f) :
    (decode table (encode table (recOf table f))).map (encode table) = some (encode table (recOf table f)) := by
  rw [decode_encode table hn f hc]; rfl

theorem stripPlus_render (n : Nat) : stripPlus (renderNat n) = renderNat n := by
  obtain ⟨c, r, hr, hd⟩ := render_head n
  exact stripPlus.eq_2 _ fun _ e => by cases hr.symm.trans e; exact absurd hd (by decide)

theorem canonVal_idem (k : VKind) (s c : String) (h : canonVal k s = some c) : canonVal k c = some c := by
  cases k with
  | str => rfl
  | bool =>
    simp only [canonVal, Option.ite_none_right_eq_some, Option.some.injEq] at h
    obtain ⟨hb, rfl⟩ := h
    simp only [canonVal, hb, if_true]
  | nat =>
    simp only [canonVal, Option.ite_none_right_eq_some, Option.some.injEq] at h
    obtain ⟨_, rfl⟩ := h
    simp only [canonVal, String.toList_ofList, stripPlus_render, allDigits_render, if_true, natVal_render]

theorem decode_lookup (table : List ASpec) (hn : (table.map (·.name)).Nodup) (a : Attrs) (r : Rec)
    (h : decode table a = some r) (s : ASpec) (hs : s ∈ table) : readBack a s = some (lookupR r s.name) := by
  obtain ⟨hall, rfl⟩ := mapM_eq_some.mp h
  rw [lookupR, find?_key_table (readBack a) hn hs]
  cases hv : readBack a s with
  | none => simpa [hv] using hall s hs
  | some v => rfl

/-- whatever `create_from_xml` accepts is held in canonical form -/
theorem decode_normal (table : List ASpec) (a : Attrs) (r : Rec) (h : decode table a = some r) :
    ∀ s ∈ table, ∀ x, lookupA a s.name = some x →
      ∃ c, canonVal s.kind x = some c ∧ canonVal s.kind c = some c := by
  intro s hs x hx
  obtain ⟨b, hb⟩ := mapM_isSome h hs
  rw [readBack, hx] at hb
  cases hc : canonVal s.kind x with
  | none => simp [hc] at hb
  | some c => exact ⟨c, rfl, canonVal_idem _ _ _ hc⟩

/-! ### the second cycle is the identity, for every element the parser accepts -/

/-- the attributes that `generate_xml` leaves out when they are empty, although a parser insists on
them, are not empty (the EDXML schema demands a name, display names, a description, a summary, a story
and a version of every event type) -/
def NonEmptyRequired (table : List ASpec) (a : Attrs) : Prop :=
  ∀ s ∈ table, s.rule = .falsyReq → ∀ x, lookupA a s.name = some x → canonVal s.kind x ≠ some ""

/-- an attribute that is written only together with another one is of the "always written" kind, and
the other an unguarded plain string attribute of the same table with default `""` (the attribute
extension of a concept association) -/
def GuardsOk (table : List ASpec) : Prop :=
  ∀ s ∈ table, ∀ g, s.onlyIf = some g → (∃ d, s.rule = .always d) ∧
    ∃ sg ∈ table, sg.name = g ∧ sg.onlyIf = none ∧ sg.rule = .dflt "" ∧ sg.kind = .str

/-- defaults are values of their kind, canonically written -/
def DefaultsCanon (table : List ASpec) : Prop :=
  ∀ s ∈ table, ∀ d, (s.rule = .dflt d ∨ s.rule = .always d ∨ s.rule = .noneDflt d) → canonVal s.kind d = some d

/-- the normal form of what a record holds for an attribute: in-memory values that `generate_xml`
writes alike have one representative, the one `create_from_xml` reads back -/
def normal (r : Rec) (s : ASpec) : Option String :=
  match guardOpen r s, s.rule, lookupR r s.name with
  | false, .always d, _ => some d
  | true, .dfltNone d, some x => if x = d then none else some x
  | true, .falsyOpt, some x => if x = "" then none else some x
  | true, .noneDflt d, none => some d
  | _, _, v => v

theorem normal_closed {r : Rec} {s : ASpec} {d : String} (hgo : guardOpen r s = false) (hr : s.rule = .always d) :
    normal r s = some d := by
  rw [normal, hgo, hr]

theorem normal_dflt {r : Rec} {s : ASpec} {d : String} (hgo : guardOpen r s = true) (hr : s.rule = .dflt d) :
    normal r s = lookupR r s.name := by
  rw [normal, hgo, hr]

theorem written_normal {r r' : Rec} {s : ASpec} (hv : lookupR r' s.name = normal r s)
    (hgo : guardOpen r' s = guardOpen r s) : written r' s = written r s := by
  rw [written, written, hgo, hv, normal]
  cases guardOpen r s
  · rfl
  · generalize lookupR r s.name = v
    cases s.rule with
    | dfltNone d =>
      rcases v with _ | x
      · rfl
      · by_cases h : x = d <;> simp [h]
    | falsyOpt =>
      rcases v with _ | x
      · rfl
      · by_cases h : x = "" <;> simp [h]
    | noneDflt d => cases v <;> rfl
    | _ => rfl

theorem valOk_normal {a : Attrs} {r : Rec} {s : ASpec} (hrb : readBack a s = some (lookupR r s.name))
    (hd : ∀ d, (s.rule = .dflt d ∨ s.rule = .always d ∨ s.rule = .noneDflt d) → canonVal s.kind d = some d)
    (hne : s.rule = .falsyReq → ∀ x, lookupA a s.name = some x → canonVal s.kind x ≠ some "")
    (hg : guardOpen r s = false → ∃ d, s.rule = .always d) : ValOk s (normal r s) := by
  rw [normal]
  cases hgo : guardOpen r s with
  | false =>
    obtain ⟨d, hr⟩ := hg hgo
    rw [hr]
    exact ⟨hd d (.inr (.inl hr)), by rw [hr]; trivial⟩
  | true =>
    generalize lookupR r s.name = v at hrb
    rw [readBack] at hrb
    cases hla : lookupA a s.name with
    | none =>
      -- nothing was read: a rule that allows that holds `None` or its default
      rw [hla] at hrb
      cases hr : s.rule with
      | req | falsyReq => rw [hr] at hrb; cases hrb
      | opt => rw [hr] at hrb; cases hrb; exact .inl hr
      | dfltNone d => rw [hr] at hrb; cases hrb; exact .inr (.inl ⟨d, hr⟩)
      | falsyOpt => rw [hr] at hrb; cases hrb; exact .inr (.inr hr)
      | noneDflt d => rw [hr] at hrb; cases hrb; exact ⟨hd d (.inr (.inr hr)), by rw [hr]; trivial⟩
      | dflt d => rw [hr] at hrb; cases hrb; exact ⟨hd d (.inl hr), by rw [hr]; trivial⟩
      | always d => rw [hr] at hrb; cases hrb; exact ⟨hd d (.inr (.inl hr)), by rw [hr]; trivial⟩
    | some y =>
      -- what was read is held canonically rendered
      rw [hla] at hrb
      obtain ⟨c, hc, rfl⟩ := Option.map_eq_some_iff.mp hrb
      have hcc := canonVal_idem _ _ _ hc
      cases hr : s.rule with
      | dfltNone d => by_cases h : c = d <;> simp [ValOk, hr, hcc, h]
      | falsyOpt => by_cases h : c = "" <;> simp [ValOk, hr, hcc, h]
      | falsyReq => exact ⟨hcc, by rw [hr]; rintro rfl; exact hne hr y hla hc⟩
      | _ => simp [ValOk, hr, hcc]

/-- every record the parser holds is serialized like a record in normal form: the one that holds the
normal form of each attribute -/
theorem normal_form (table : List ASpec) (hn : (table.map (·.name)).Nodup) (hg : GuardsOk table) (hd : DefaultsCanon table)
    (a : Attrs) (hne : NonEmptyRequired table a) (r : Rec) (h : decode table a = some r) :
    ∃ f, Conform table f ∧ encode table (recOf table f) = encode table r := by
  let f := fun n => (table.find? (·.name == n)).bind (normal r)
  have hf : ∀ s ∈ table, f s.name = normal r s := fun s hs => by
    simp only [f, find?_key_of_mem hn hs]; rfl
  have hclosed : ∀ s ∈ table, guardOpen r s = false → ∃ d, s.rule = .always d := fun s hs hgo => by
    cases ho : s.onlyIf with
    | none => simp [guardOpen, ho] at hgo
    | some g => exact (hg s hs g ho).1
  -- a guard is an unguarded attribute with a default, and those keep their value
  have hguard : ∀ s ∈ table, guardOpen (recOf table f) s = guardOpen r s := fun s hs => by
    unfold guardOpen
    cases ho : s.onlyIf with
    | none => rfl
    | some g =>
      obtain ⟨_, sg, hsg, rfl, hoi, hrule, _⟩ := hg s hs g ho
      have hopen : guardOpen r sg = true := by rw [guardOpen, hoi]
      simp only [lookupR_recOf, if_pos (List.mem_map_of_mem hsg), hf sg hsg, normal_dflt hopen hrule]
  refine ⟨f, fun s hs => ⟨?_, ?_⟩, filterMap_congr fun s hs => congrArg (Option.map _) (written_normal ?_ (hguard s hs))⟩
  · rw [hf s hs]
    exact valOk_normal (decode_lookup table hn a r h s hs) (hd s hs) (hne s hs) (hclosed s hs)
  · rw [hguard s hs]
    intro hgo
    obtain ⟨d, hr⟩ := hclosed s hs hgo
    exact ⟨d, .inl hr, by rw [hf s hs, normal_closed hgo hr]⟩
  · rw [lookupR_recOf, if_pos (List.mem_map_of_mem hs), hf s hs]

/-- **C08, repeating the cycle is byte-identical (attribute level)**: for every element the parser
accepts, parsing what was serialized succeeds and serializes to the very same attributes. -/
theorem cycle_idempotent (table : List ASpec) (hn : (table.map (·.name)).Nodup) (hg : GuardsOk table)
    (hd : DefaultsCanon table) (a : Attrs) (hne : NonEmptyRequired table a) (r : Rec) (h : decode table a = some r) :
    ∃ r', decode table (encode table r) = some r' ∧ encode table r' = encode table r := by
  obtain ⟨f, hc, he⟩ := normal_form table hn hg hd a hne r h
  exact ⟨recOf table f, he ▸ decode_encode table hn f hc, he⟩

/-- the three conditions of `cycle_idempotent`, as a check that is run on the tables below -/
def tableOk (t : List ASpec) : Bool :=
  decide (t.map (·.name)).Nodup && t.all fun s =>
    (match s.onlyIf with
     | none => true
     | some g => (s.rule matches .always _) &&
        t.any fun sg => sg.name == g && sg.onlyIf.isNone && sg.rule == .dflt "" && sg.kind == .str) &&
    (match s.rule with
     | .dflt d | .always d | .noneDflt d => canonVal s.kind d == some d
     | _ => true)

theorem tableOk_sound {t : List ASpec} (h : tableOk t = true) : (t.map (·.name)).Nodup ∧ GuardsOk t ∧ DefaultsCanon t := by
  simp only [tableOk, Bool.and_eq_true, decide_eq_true_eq, List.all_eq_true] at h
  refine ⟨h.1, fun s hs g ho => ?_, fun s hs d hr => ?_⟩
  · have := (h.2 s hs).1
    simp only [ho, Bool.and_eq_true, List.any_eq_true, beq_iff_eq, Option.isNone_iff_eq_none] at this
    obtain ⟨hr, sg, hsg, ⟨⟨hname, hoi⟩, hrule⟩, hkind⟩ := this
    refine ⟨?_, sg, hsg, hname, hoi, hrule, hkind⟩
    cases hr' : s.rule <;> simp [hr'] at hr
    exact ⟨_, rfl⟩
  · have := (h.2 s hs).2
    rcases hr with hr | hr | hr <;> simpa [hr] using this

/-- a property of all rule tables of the SDK: those of the eight element classes and of the seven
relation elements -/
def ForTables (P : String → List ASpec → Prop) : Prop :=
  P "object-type" objectTypeTable ∧ P "concept" conceptTable ∧ P "source" sourceTable ∧
  P "event-type" eventTypeTable ∧ P "property" propertyTable ∧ P "property-concept" assocTable ∧
  P "attachment" attachmentTable ∧ P "parent" parentTable ∧ ∀ t ∈ relationTags, P t (relationTable t)

theorem ForTables.imp {P Q : String → List ASpec → Prop} (h : ForTables P) (hpq : ∀ tag t, P tag t → Q tag t) :
    ForTables Q := by
  obtain ⟨h1, h2, h3, h4, h5, h6, h7, h8, h9⟩ := h
  exact ⟨hpq _ _ h1, hpq _ _ h2, hpq _ _ h3, hpq _ _ h4, hpq _ _ h5, hpq _ _ h6, hpq _ _ h7, hpq _ _ h8,
    fun t ht => hpq _ _ (h9 t ht)⟩

theorem ForTables.relation {P : String → List ASpec → Prop} (h : ForTables P) {t : String} (ht : t ∈ relationTags) :
    P t (relationTable t) :=
  h.2.2.2.2.2.2.2.2 t ht

theorem ForTables.of_tableOf {P : String → List ASpec → Prop} (h : ForTables P) {tag : String} {t : List ASpec}
    (e : tableOf tag = some t) : P tag t := by
  obtain ⟨h1, h2, h3, h4, h5, h6, h7, h8, h9⟩ := h
  unfold tableOf at e
  split at e
  iterate 8 cases e; assumption
  obtain ⟨hc, ⟨⟩⟩ := Option.ite_none_right_eq_some.mp e
  exact h9 _ (List.contains_iff_mem.mp hc)

/-- every table passes `tableOk`, and only an event type element has attributes that are left out when
empty although a parser requires them -/
theorem tables_ok : ForTables fun tag t =>
    tableOk t = true ∧ (tag = "event-type" ∨ (t.all fun s => s.rule != .falsyReq) = true) := by
  unfold ForTables
  decide +kernel

theorem tableOf_ok (tag : String) (t : List ASpec) (h : tableOf tag = some t) :
    (t.map (·.name)).Nodup ∧ GuardsOk t ∧ DefaultsCanon t :=
  tableOk_sound (tables_ok.of_tableOf h).1

theorem tables_have_unique_names :
    (objectTypeTable.map (·.name)).Nodup ∧ (conceptTable.map (·.name)).Nodup ∧ (sourceTable.map (·.name)).Nodup ∧
    (eventTypeTable.map (·.name)).Nodup ∧ (propertyTable.map (·.name)).Nodup ∧ (assocTable.map (·.name)).Nodup ∧
    (attachmentTable.map (·.name)).Nodup ∧ (parentTable.map (·.name)).Nodup ∧
    (∀ t ∈ ["inter", "intra", "other", "name", "description", "container", "original"],
      ((relationTable t).map (·.name)).Nodup) :=
  tables_ok.imp fun _ _ h => (tableOk_sound h.1).1

/-- a relation created without a confidence (`None` in memory, the default of `EventType.create_relation`)
is written with the default confidence 10 and read back as 10: the two in-memory forms
stand for one definition (which is why relations are compared by their effective confidence, /repo ccfb93c) -/
theorem relation_confidence_default (t : String) (ht : t ∈ ["inter", "intra", "other"]) (r : Rec)
    (h : lookupR r "confidence" = none) :
    lookupA (encode (relationTable t) r) "confidence" = some "10" ∧
    readBack (encode (relationTable t) r) ⟨"confidence", .nat, .noneDflt "10", none⟩ = some (some "10") := by
  have hm : t ∈ relationTags := (by decide +kernel : ["inter", "intra", "other"] ⊆ relationTags) ht
  have hn := (tableOk_sound (tables_ok.relation hm).1).1
  have hs : (⟨"confidence", .nat, .noneDflt "10", none⟩ : ASpec) ∈ relationTable t := by
    have hc : (t == "name" || t == "description" || t == "container" || t == "original") = false := by
      simp only [List.mem_cons, List.mem_nil_iff, or_false] at ht
      rcases ht with rfl | rfl | rfl <;> simp
    rw [relationTable, hc]
    exact List.mem_append_right _ (.tail _ (.tail _ (.head _)))
  have hw := (written_value_is_read_back _ hn r _ hs).trans
    (show written r _ = some "10" by simp [written, guardOpen, h])
  exact ⟨hw, by rw [readBack, hw]; decide +kernel⟩

/-- **C08: repeating the parse-serialize cycle changes nothing**, for every element kind of the
ontology and every element the parser accepts (whose event type attributes the schema requires are
not empty): `generate_xml(create_from_xml(x))` is a fixed point of the cycle -/
theorem cycle_twice (tag : String) (a b : Attrs)
    (hne : ∀ t, tableOf tag = some t → NonEmptyRequired t a) (h : cycle tag a = some b) : cycle tag b = some b := by
  simp only [cycle, Option.bind_eq_bind, Option.bind_eq_some_iff, Option.pure_def, Option.some.injEq] at h ⊢
  obtain ⟨t, ht, r, hr, rfl⟩ := h
  obtain ⟨hn, hg, hd⟩ := tableOf_ok tag t ht
  obtain ⟨r', h1, h2⟩ := cycle_idempotent t hn hg hd a (hne t ht) r hr
  exact ⟨t, ht, r', h1, h2⟩

theorem cycle_twice_other (tag : String) (htag : tag ≠ "event-type") (a b : Attrs) (h : cycle tag a = some b) :
    cycle tag b = some b :=
  cycle_twice tag a b (fun t ht s hs hr => by
    have := List.all_eq_true.mp ((tables_ok.of_tableOf ht).2.resolve_left htag) s hs
    simp [hr] at this) h

/-! ### the element tree
`cycleOnt_twice` covers the whole tree; sortedness, completeness and independence of the arrival order
are claimed for the four containers of the ontology element only, not for those inside an event type
(properties, concept associations, relations, attachments). -/

theorem cycleProp_eq (p : PropX) : cycleProp p =
    (cycle "property" p.attrs).bind fun a =>
    (cycleAll (cycle "property-concept") (attr · "name") p.concepts).bind fun cs => some ⟨a, cs⟩ := by
  simp only [cycleProp, cycleAll, Option.bind_eq_bind, Option.bind_map, Function.comp_def, Option.pure_def]

theorem cycleEt_eq (e : EtX) : cycleEt e =
    (cycle "event-type" e.attrs).bind fun a =>
    (cycleParent e.parent).bind fun parent =>
    (cycleAll cycleProp (attr ·.attrs "name") e.props).bind fun props =>
    (cycleAll cycleRel relKey e.rels).bind fun rels =>
    (cycleAll (cycle "attachment") (attr · "name") e.atts).bind fun atts => some ⟨a, parent, props, rels, atts⟩ := by
  simp only [cycleEt, cycleAll, Option.bind_eq_bind, Option.bind_map, Function.comp_def, Option.pure_def]

theorem cycleOnt_eq (o : OntX) : cycleOnt o =
    (cycleAll (cycle "object-type") (attr · "name") o.objectTypes).bind fun ots =>
    (cycleAll (cycle "concept") (attr · "name") o.concepts).bind fun cs =>
    (cycleAll cycleEt (attr ·.attrs "name") o.eventTypes).bind fun ets =>
    (cycleAll (cycle "source") (attr · "uri") o.sources).bind fun ss => some ⟨ots, cs, ets, ss⟩ := by
  simp only [cycleOnt, cycleAll, Option.bind_eq_bind, Option.bind_map, Function.comp_def, Option.pure_def]

theorem cycleProp_twice (p p' : PropX) (h : cycleProp p = some p') : cycleProp p' = some p' := by
  simp only [cycleProp_eq, Option.bind_eq_some_iff, Option.some.injEq] at h
  obtain ⟨a, ha, cs, hcs, rfl⟩ := h
  rw [cycleProp_eq, cycle_twice_other _ (by simp) _ _ ha,
    cycleAll_fixed hcs fun x _ y => cycle_twice_other _ (by simp) x y]
  rfl

theorem cycleRel_twice (r r' : RelX) (h : cycleRel r = some r') : cycleRel r' = some r' := by
  unfold cycleRel at h ⊢
  split at h
  · rename_i hmem
    simp only [Option.bind_eq_bind, Option.bind_eq_some_iff, Option.pure_def, Option.some.injEq] at h
    obtain ⟨a, ha, rfl⟩ := h
    have htag : r.tag ≠ "event-type" := by rintro e; simp [e, relationTags] at hmem
    rw [if_pos hmem, cycle_twice_other _ htag _ _ ha]
    rfl
  · cases h

theorem cycleParent_twice (p q : Option Attrs) (h : cycleParent p = some q) : cycleParent q = some q := by
  cases p with
  | none => cases h; rfl
  | some a =>
    rw [cycleParent, Option.map_eq_some_iff] at h
    obtain ⟨b, hb, rfl⟩ := h
    rw [cycleParent, cycle_twice_other _ (by simp) _ _ hb, Option.map_some]

/-- the required attributes are not empty where they are present; a missing one makes `cycleEt` fail -/
def EtAttrsOk (e : EtX) : Prop := NonEmptyRequired eventTypeTable e.attrs

theorem cycleEt_twice (e e' : EtX) (hok : EtAttrsOk e) (h : cycleEt e = some e') : cycleEt e' = some e' := by
  simp only [cycleEt_eq, Option.bind_eq_some_iff, Option.some.injEq] at h
  obtain ⟨a, ha, p, hp, ps, hps, rs, hrs, as, has, rfl⟩ := h
  rw [cycleEt_eq, cycle_twice _ _ _ (fun t ht => by cases ht; exact hok) ha, cycleParent_twice _ _ hp,
    cycleAll_fixed hps fun x _ y => cycleProp_twice x y, cycleAll_fixed hrs fun x _ y => cycleRel_twice x y,
    cycleAll_fixed has fun x _ y => cycle_twice_other _ (by simp) x y]
  rfl

/-- **C08: repeating the cycle is byte-identical, for the whole ontology element**: what
`generate_xml` writes for a parsed ontology — every definition through its attribute rules, every
container sorted — is parsed and written again as the very same tree -/
theorem cycleOnt_twice (o o' : OntX) (hok : ∀ e ∈ o.eventTypes, EtAttrsOk e) (h : cycleOnt o = some o') :
    cycleOnt o' = some o' := by
  simp only [cycleOnt_eq, Option.bind_eq_some_iff, Option.some.injEq] at h
  obtain ⟨ots, h1, cs, h2, ets, h3, ss, h4, rfl⟩ := h
  rw [cycleOnt_eq, cycleAll_fixed h1 fun x _ y => cycle_twice_other _ (by simp) x y,
    cycleAll_fixed h2 fun x _ y => cycle_twice_other _ (by simp) x y,
    cycleAll_fixed h3 fun x hx y => cycleEt_twice x y (hok x hx),
    cycleAll_fixed h4 fun x _ y => cycle_twice_other _ (by simp) x y]
  rfl

/-- C08: every container of the serialized ontology is sorted by the key of its definitions, and
holds exactly the cycled definitions of the input -/
theorem cycleOnt_sorted_complete (o o' : OntX) (h : cycleOnt o = some o') :
    (o'.objectTypes.Pairwise fun x y => attr x "name" ≤ attr y "name") ∧
    (o'.concepts.Pairwise fun x y => attr x "name" ≤ attr y "name") ∧
    (o'.eventTypes.Pairwise fun x y => attr x.attrs "name" ≤ attr y.attrs "name") ∧
    (o'.sources.Pairwise fun x y => attr x "uri" ≤ attr y "uri") ∧
    (∃ ots, o.objectTypes.mapM (cycle "object-type") = some ots ∧ o'.objectTypes.Perm ots) ∧
    (∃ cs, o.concepts.mapM (cycle "concept") = some cs ∧ o'.concepts.Perm cs) ∧
    (∃ ets, o.eventTypes.mapM cycleEt = some ets ∧ o'.eventTypes.Perm ets) ∧
    (∃ ss, o.sources.mapM (cycle "source") = some ss ∧ o'.sources.Perm ss) ∧
    o'.objectTypes.length = o.objectTypes.length ∧ o'.eventTypes.length = o.eventTypes.length := by
  simp only [cycleOnt_eq, Option.bind_eq_some_iff, Option.some.injEq] at h
  obtain ⟨ots, h1, cs, h2, ets, h3, ss, h4, rfl⟩ := h
  exact ⟨cycleAll_sorted h1, cycleAll_sorted h2, cycleAll_sorted h3, cycleAll_sorted h4,
    cycleAll_complete h1, cycleAll_complete h2, cycleAll_complete h3, cycleAll_complete h4,
    cycleAll_length h1, cycleAll_length h3⟩

/-- three test vectors of the first parse-serialize cycle, on the shapes the schema leaves open: a
zero-padded radix and a signed, padded version; attributes at their default; an empty attribute
extension. That the results are fixed points is `cycle_twice`, not this statement. -/
theorem cycle_fixed_point :
    cycle "object-type" [("name", "o"), ("display-name-singular", "a"), ("display-name-plural", "b"), ("description", "d"),
        ("data-type", "number:int"), ("unit-name", "m"), ("unit-symbol", "m"), ("prefix-radix", "010"), ("compress", "false"),
        ("version", "+01")] =
      some [("name", "o"), ("display-name-singular", "a"), ("display-name-plural", "b"), ("description", "d"),
        ("data-type", "number:int"), ("unit-name", "m"), ("unit-symbol", "m"), ("version", "1")] ∧
    cycle "property" [("name", "p"), ("object-type", "o"), ("description", "d"), ("confidence", "07"), ("merge", "any"),
        ("similar", "")] =
      some [("name", "p"), ("object-type", "o"), ("description", "d"), ("optional", "false"), ("multivalued", "false"),
        ("confidence", "7")] ∧
    cycle "property-concept" [("name", "c"), ("confidence", "1"), ("cnp", "128"), ("attr-extension", "")] =
      some [("name", "c"), ("confidence", "1"), ("cnp", "128")] := by
  decide +kernel

/-- **C08: the serialized ontology does not depend on the order in which the definitions of a
container arrive** (object types, concepts, event types, sources), as long as no two definitions of
one container share their name / URI: `generate_xml` writes them sorted -/
theorem cycleOnt_order_free (o₁ o₂ o' : OntX)
    (h1 : o₁.objectTypes.Perm o₂.objectTypes) (h2 : o₁.concepts.Perm o₂.concepts)
    (h3 : o₁.eventTypes.Perm o₂.eventTypes) (h4 : o₁.sources.Perm o₂.sources)
    (hc : cycleOnt o₁ = some o')
    (k1 : ∀ x ∈ o'.objectTypes, ∀ y ∈ o'.objectTypes, attr x "name" = attr y "name" → x = y)
    (k2 : ∀ x ∈ o'.concepts, ∀ y ∈ o'.concepts, attr x "name" = attr y "name" → x = y)
    (k3 : ∀ x ∈ o'.eventTypes, ∀ y ∈ o'.eventTypes, attr x.attrs "name" = attr y.attrs "name" → x = y)
    (k4 : ∀ x ∈ o'.sources, ∀ y ∈ o'.sources, attr x "uri" = attr y "uri" → x = y) :
    cycleOnt o₂ = some o' := by
  simp only [cycleOnt_eq, Option.bind_eq_some_iff, Option.some.injEq] at hc
  obtain ⟨ots, c1, cs, c2, ets, c3, ss, c4, rfl⟩ := hc
  rw [cycleOnt_eq, cycleAll_order_free h1 c1 k1, cycleAll_order_free h2 c2 k2, cycleAll_order_free h3 c3 k3,
    cycleAll_order_free h4 c4 k4]
  rfl

/-- definitions that arrive in another order than they are written, with an attribute at its default -/
def exOnt : OntX :=
  { objectTypes := [[("name", "o.b"), ("display-name-singular", "b"), ("display-name-plural", "bs"), ("description", "d"),
                     ("data-type", "string:0:mc"), ("compress", "false"), ("version", "02")],
                    [("name", "o.a"), ("display-name-singular", "a"), ("display-name-plural", "as"), ("description", "d"),
                     ("data-type", "number:int"), ("version", "1")]],
    concepts := [], eventTypes := [], sources := [[("uri", "/b/"), ("description", "d"), ("version", "1")],
                                                   [("uri", "/a/"), ("description", "d"), ("version", "1")]] }
example : exOnt.objectTypes.mapM (cycle "object-type") = some
    [[("name", "o.b"), ("display-name-singular", "b"), ("display-name-plural", "bs"), ("description", "d"),
      ("data-type", "string:0:mc"), ("version", "2")],
     [("name", "o.a"), ("display-name-singular", "a"), ("display-name-plural", "as"), ("description", "d"),
      ("data-type", "number:int"), ("version", "1")]] := by decide +kernel
example : exOnt.sources.mapM (cycle "source") = some exOnt.sources := by decide +kernel
example : sortBy (attr · "uri") exOnt.sources =
    [[("uri", "/a/"), ("description", "d"), ("version", "1")], [("uri", "/b/"), ("description", "d"), ("version", "1")]] :=
  -- not `decide`: `mergeSort` is defined by well-founded recursion, which the kernel does not evaluate
  (sortBy_perm_eq _ (.swap ..) (by decide +kernel)).trans (sortBy_of_sorted _ (by decide +kernel))
example : ∀ e ∈ exOnt.eventTypes, EtAttrsOk e := by simp [exOnt]

end EdxmlProps.C08
