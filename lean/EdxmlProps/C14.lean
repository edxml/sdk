/-
C14 — The parser delivers each event exactly once, in order, to the right handlers.

`Spec` is the behaviour the documentation promises, short enough to read at a glance: no pattern
map cache, no tree, no counters — just the current ontology, the callback log and the list of
delivered events. The parser machine is shown to refine it.
-/
import EdxmlProps.Lemmas.Parser
import EdxmlProps.C06
namespace Edxml

/-- The handlers the documentation promises: those registered for the event type, then those of
every registered source pattern that matches the source URI, patterns in registration order. -/
def expectedHandlers (reg : Registry) (type source : String) : List Nat :=
  lookupD type [] reg.typeH ++
    reg.srcH.flatMap fun ph => if reg.reMatch.contains (ph.1, source) then ph.2 else []

theorem handlersFor_buildPatMap (reg : Registry) (ss : List String) (type source : String)
    (hs : source ∈ ss) :
    handlersFor reg (buildPatMap reg ss) type source = expectedHandlers reg type source := by
  unfold handlersFor expectedHandlers
  rw [List.flatMap_def, List.flatMap_def]
  congr 2
  apply List.map_congr_left
  intro ph hph
  rw [lookupD_buildPatMap reg ss ph hph]
  have : (List.filter (fun uri => reg.reMatch.contains (ph.1, uri)) ss).contains source
      = reg.reMatch.contains (ph.1, source) := by
    rw [Bool.eq_iff_iff]
    simp only [List.contains_iff_mem, List.mem_filter]
    exact ⟨fun h => h.2, fun h => ⟨hs, h⟩⟩
  rw [this]

end Edxml

namespace EdxmlProps.C14
open Edxml

structure Spec where
  ont : Option (List String × List String) := none
  log : List Callback := []
  /-- (index, event type) of the delivered events, in delivery order -/
  delivered : List (Nat × String) := []
  /-- how many of them were delivered in earlier documents parsed by the same parser -/
  base : Nat := 0

/-- Callbacks for one event: the expected handlers in order, or the overridden `_parsed_event`
when there is none. -/
def specDispatch (reg : Registry) (idx : Nat) (type source : String) : List Callback :=
  match expectedHandlers reg type source with
  | [] => if reg.overridden then [.fallback idx] else []
  | hs => hs.map fun h => .handler h idx

def specStep (reg : Registry) (t : Spec) : Item → Spec × Option PErr
  | .ont .ok types sources =>
    let cur := t.ont.getD ([], [])
    let ts := canonS (cur.1 ++ types)
    let ss := canonS (cur.2 ++ sources)
    ({ t with ont := some (ts, ss), log := t.log ++ [Callback.ontology ts ss] }, none)
  | .ont _ _ _ => (t, some .ontologyValidation)
  | .event idx type source gateOk =>
    match t.ont with
    | none => (t, some .validation)
    | some (ts, ss) =>
      if !ss.contains source then (t, some .eventValidation) else
      if !ts.contains type then (t, some .eventValidation) else
      if reg.validate && !gateOk then (t, some .eventValidation) else
      ({ t with log := t.log ++ specDispatch reg idx type source,
                delivered := t.delivered ++ [(idx, type)] }, none)
  | .foreign idx => ({ t with log := t.log ++ [Callback.foreign idx] }, none)

def specRun (reg : Registry) (t : Spec) : List Item → Spec × Option PErr
  | [] => (t, none)
  | it :: rest =>
    match specStep reg t it with
    | (t', none) => specRun reg t' rest
    | (t', some e) => (t', some e)

def countType (ty : String) (d : List (Nat × String)) : Nat := (d.filter (·.2 == ty)).length

def isOntologyCallback : Callback → Bool
  | .ontology _ _ => true
  | _ => false

/-- The parser machine and the specification are in step. -/
structure Sim (reg : Registry) (s : PState) (t : Spec) : Prop where
  ont : s.ont = t.ont
  log : s.log = t.log
  nEvents : s.nEvents + t.base = t.delivered.length
  counts : ∀ ty, lookupD ty 0 s.typeCount = countType ty t.delivered
  patMap : ∀ ts ss, s.ont = some (ts, ss) → s.patMap = buildPatMap reg ss

theorem sim_init (reg : Registry) : Sim reg {} {} :=
  ⟨rfl, rfl, rfl, fun _ => rfl, fun _ _ h => (by cases h)⟩

theorem dispatch_eq (reg : Registry) (ss : List String) (idx : Nat) (type source : String)
    (hs : ss.contains source = true) :
    dispatch reg (buildPatMap reg ss) idx type source = specDispatch reg idx type source := by
  unfold dispatch specDispatch
  rw [handlersFor_buildPatMap reg ss type source (by simpa using hs)]
  rfl

/-- What an accepted item does to the specification; as in `accept`, the validity of an ontology
element is not looked at. -/
def specAccept (reg : Registry) (t : Spec) : Item → Spec
  | .ont _ types sources =>
    let ts := canonS ((t.ont.getD ([], [])).1 ++ types)
    let ss := canonS ((t.ont.getD ([], [])).2 ++ sources)
    { t with ont := some (ts, ss), log := t.log ++ [Callback.ontology ts ss] }
  | .event i ty src _ => { t with log := t.log ++ specDispatch reg i ty src, delivered := t.delivered ++ [(i, ty)] }
  | .foreign i => { t with log := t.log ++ [Callback.foreign i] }

theorem specStep_eq (reg : Registry) (t : Spec) (it : Item) :
    specStep reg t it =
      match verdict reg.validate t.ont it with
      | none => (specAccept reg t it, none)
      | some e => (t, some e) := by
  cases it with
  | foreign i => rfl
  | ont k ts ss => cases k <;> rfl
  | event i ty src g =>
    simp only [specAccept]
    cases ho : t.ont with
    | none => simp only [specStep, verdict, ho]
    | some o =>
      obtain ⟨ts, ss⟩ := o
      simp only [specStep, ho]
      refine (verdict_event_ite reg.validate ts ss i ty src g (fun e => (_, some e)) _).trans ?_
      cases verdict reg.validate (some (ts, ss)) (.event i ty src g) <;> rfl

theorem specStep_snd (reg : Registry) (t : Spec) (it : Item) :
    (specStep reg t it).2 = verdict reg.validate t.ont it := by
  rw [specStep_eq]
  split <;> simp only [*]

theorem specRun_cons (reg : Registry) (t : Spec) (it : Item) (rest : List Item) :
    specRun reg t (it :: rest) =
      match verdict reg.validate t.ont it with
      | none => specRun reg (specStep reg t it).1 rest
      | some _ => specStep reg t it := by
  rw [← specStep_snd, specRun]
  cases specStep reg t it with
  | mk t' e => cases e <;> rfl

/-- The relation holds again also after a refused item: that stays in the tree, of which `Sim` does
not speak. -/
theorem step_sim (reg : Registry) {s : PState} {t : Spec} (it : Item) (h : Sim reg s t) :
    (pstep reg s it).2 = (specStep reg t it).2 ∧ Sim reg (pstep reg s it).1 (specStep reg t it).1 := by
  rw [pstep_eq, specStep_eq, ← h.ont]
  cases hv : verdict reg.validate s.ont it with
  | some e => exact ⟨rfl, h.ont, h.log, h.nEvents, h.counts, h.patMap⟩
  | none =>
    refine ⟨rfl, ?_⟩
    cases it with
    | foreign i => exact ⟨h.ont, congrArg (· ++ [Callback.foreign i]) h.log, h.nEvents, h.counts, h.patMap⟩
    | ont k ts ss =>
      refine ⟨?_, ?_, h.nEvents, fun ty => ?_, fun ts' ss' ho => ?_⟩
      · simp only [accept, processOnt, specAccept, h.ont]
      · simp only [accept, processOnt, specAccept, h.ont, h.log]
      · exact (lookupD_foldl_setDefault ty _ _).trans (h.counts ty)
      · cases ho; rfl
    | event i ty src g =>
      obtain ⟨ts, ss, ho, hsrc, -, -⟩ := verdict_event_eq_none.mp hv
      have hpm : s.patMap = buildPatMap reg ss := h.patMap ts ss ho
      refine ⟨h.ont, ?_, ?_, fun ty' => ?_, h.patMap⟩
      · show s.log ++ dispatch reg s.patMap i ty src = t.log ++ specDispatch reg i ty src
        rw [hpm, dispatch_eq reg ss i ty src hsrc, h.log]
      · show s.nEvents + 1 + t.base = (t.delivered ++ [(i, ty)]).length
        rw [List.length_append, ← h.nEvents]; simp only [List.length_singleton]; omega
      · show lookupD ty' 0 (increment ty s.typeCount) = countType ty' (t.delivered ++ [(i, ty)])
        rw [lookupD_increment, h.counts ty', countType, countType, List.filter_append, List.length_append]
        simp only [List.filter_cons, List.filter_nil]
        split <;> rfl

/-- **The parser refines the specification**, from any pair of related states and whether or not the
run ends in an error. -/
theorem run_sim (reg : Registry) : ∀ (items : List Item) {s : PState} {t : Spec}, Sim reg s t →
    (prun reg s items).2 = (specRun reg t items).2 ∧ Sim reg (prun reg s items).1 (specRun reg t items).1
  | [], _, _, h => ⟨rfl, h⟩
  | it :: rest, s, t, h => by
    obtain ⟨he, hS⟩ := step_sim reg it h
    rw [prun_cons, specRun_cons, h.ont]
    cases verdict reg.validate t.ont it with
    | none => exact run_sim reg rest hS
    | some _ => exact ⟨he, hS⟩

/-- For every document and registration set, parsing ends with the same outcome as the
specification, the callback log is the specification's log (`specDispatch` event by event) and the
counters count the delivered events. (`extra` is always empty: `run_sim`.) -/
theorem dispatch_exact (reg : Registry) : ∀ (items : List Item) (s s' : PState) (t t' : Spec)
    (e e' : Option PErr), Sim reg s t → prun reg s items = (s', e) → specRun reg t items = (t', e') →
    e = e' ∧ s'.nEvents + t'.base = t'.delivered.length ∧
    (∀ ty, lookupD ty 0 s'.typeCount = countType ty t'.delivered) ∧
    ∃ extra, s'.log = t'.log ++ extra ∧ (e = none → extra = []) ∧
      ∀ c ∈ extra, isOntologyCallback c = true := by
  intro items s s' t t' e e' hR hs ht
  obtain ⟨he, hS⟩ := run_sim reg items hR
  rw [hs, ht] at he hS
  exact ⟨he, hS.nEvents, hS.counts, [], by rw [hS.log, List.append_nil], fun _ => rfl, fun _ hc => nomatch hc⟩

/-- A refused item changes nothing: what the effect of every accepted item preserves, a run preserves. -/
theorem specRun_induction {reg : Registry} {P : Spec → Prop}
    (hstep : ∀ t it, P t → P (specAccept reg t it)) (items : List Item) (t : Spec) (h : P t) :
    P (specRun reg t items).1 := by
  have hs (t it) (h : P t) : P (specStep reg t it).1 := by
    rw [specStep_eq]
    split
    · exact hstep t it h
    · exact h
  fun_induction specRun reg t items with
  | case1 => exact h
  | case2 t it rest t' e ih => exact ih (e ▸ hs t it h :)
  | case3 t it rest t' _ e => exact (e ▸ hs t it h :)

theorem specRun_base (reg : Registry) (items : List Item) (t : Spec) : (specRun reg t items).1.base = t.base :=
  specRun_induction (P := fun t' => t'.base = t.base) (fun _ it h => by cases it <;> exact h) items t rfl

/-- Counters equal the number of delivered events, in total and per event type. -/
theorem counters_eq_delivered (reg : Registry) (items : List Item) :
    (prun reg {} items).1.nEvents = (specRun reg {} items).1.delivered.length ∧
    ∀ ty, lookupD ty 0 (prun reg {} items).1.typeCount = countType ty (specRun reg {} items).1.delivered := by
  have h := (run_sim reg items (sim_init reg)).2
  have hb : (specRun reg {} items).1.base = 0 := specRun_base reg items {}
  exact ⟨by have := h.nEvents; omega, h.counts⟩

/-- The callbacks for an event do not depend on the events parsed before it. -/
theorem dispatch_history_free (reg : Registry) (t₁ t₂ t₁' t₂' : Spec) (idx : Nat) (type source : String) (g : Bool)
    (h₁ : specStep reg t₁ (.event idx type source g) = (t₁', none))
    (h₂ : specStep reg t₂ (.event idx type source g) = (t₂', none)) :
    ∃ cb, t₁'.log = t₁.log ++ cb ∧ t₂'.log = t₂.log ++ cb ∧ cb = specDispatch reg idx type source := by
  have one : ∀ (t t' : Spec), specStep reg t (.event idx type source g) = (t', none) →
      t'.log = t.log ++ specDispatch reg idx type source := by
    intro t t' h
    have hv := (specStep_snd reg t _).symm.trans (congrArg Prod.snd h)
    rw [specStep_eq, hv] at h
    rw [← (Prod.mk.inj h).1]
    rfl
  exact ⟨_, one t₁ t₁' h₁, one t₂ t₂' h₂, rfl⟩

def eventsOf : List Item → List (Nat × String)
  | [] => []
  | .event idx type _ _ :: r => (idx, type) :: eventsOf r
  | _ :: r => eventsOf r

/-- **Exactly once, in document order**: the delivered events are the events of a prefix of the
document (all of it when parsing succeeds), each once, in order. -/
theorem events_once_in_order (reg : Registry) : ∀ (items : List Item) (t t' : Spec) (e : Option PErr),
    specRun reg t items = (t', e) →
    ∃ pre post, items = pre ++ post ∧ t'.delivered = t.delivered ++ eventsOf pre ∧ (e = none → post = []) := by
  intro items
  induction items with
  | nil =>
    rintro t t' e ⟨⟩
    exact ⟨[], [], rfl, (List.append_nil _).symm, fun _ => rfl⟩
  | cons it items ih =>
    intro t t' e h
    rw [specRun_cons, specStep_eq] at h
    cases hv : verdict reg.validate t.ont it with
    | some err =>
      rw [hv] at h
      cases h
      exact ⟨[], it :: items, rfl, (List.append_nil _).symm, fun he => nomatch he⟩
    | none =>
      rw [hv] at h
      obtain ⟨pre, post, hpp, hd, hn⟩ := ih (specAccept reg t it) t' e h
      refine ⟨it :: pre, post, by rw [hpp]; rfl, hd.trans ?_, hn⟩
      cases it with
      | event i ty src g => exact List.append_assoc ..
      | _ => rfl

/-- An ontology callback in the log carries the current ontology. -/
def SpecInv (t : Spec) : Prop := ∀ ts ss, t.ont = some (ts, ss) → Callback.ontology ts ss ∈ t.log

theorem specAccept_inv (reg : Registry) (t : Spec) (it : Item) (hI : SpecInv t) : SpecInv (specAccept reg t it) := by
  cases it with
  | ont k ts ss =>
    intro ts' ss' ho
    cases ho
    exact List.mem_append_right _ (List.mem_singleton_self _)
  | event i ty src g => exact fun ts ss ho => List.mem_append_left _ (hI ts ss ho)
  | foreign i => exact fun ts ss ho => List.mem_append_left _ (hI ts ss ho)

/-- **Ontology before use**: when an event is delivered, an ontology callback that defines its
event type and its source is already in the log. -/
theorem ontology_before_use (reg : Registry) (t t' : Spec) (idx : Nat) (type source : String) (g : Bool)
    (hI : SpecInv t) (h : specStep reg t (.event idx type source g) = (t', none)) :
    ∃ ts ss, Callback.ontology ts ss ∈ t.log ∧ ts.contains type = true ∧ ss.contains source = true := by
  have hv := (specStep_snd reg t _).symm.trans (congrArg Prod.snd h)
  obtain ⟨ts, ss, ho, h1, h2, -⟩ := verdict_event_eq_none.mp hv
  exact ⟨ts, ss, hI ts ss ho, h2, h1⟩

theorem specRun_inv (reg : Registry) : ∀ (items : List Item) (t t' : Spec) (e : Option PErr),
    SpecInv t → specRun reg t items = (t', e) → SpecInv t' := by
  intro items t t' e hI h
  have := specRun_induction (specAccept_inv reg) items t hI
  rwa [h] at this

example : (specRun C06.exReg {} C06.exDoc).1.log = (prun C06.exReg {} C06.exDoc).1.log := by decide +kernel
example : (specRun C06.exReg {} C06.exDoc).1.delivered = [(1, "ta"), (3, "ta")] := by decide +kernel

/-- the specification of a parser that is fed on after refused events: they are skipped -/
def specRunResilient (reg : Registry) (t : Spec) : List Item → Spec × List PErr
  | [] => (t, [])
  | it :: rest =>
    match specStep reg t it with
    | (t', none) => specRunResilient reg t' rest
    | (t', some .eventValidation) =>
      let r := specRunResilient reg t' rest
      (r.1, .eventValidation :: r.2)
    | (t', some e) => (t', [e])

theorem resilient_sim (reg : Registry) : ∀ (items : List Item) {s : PState} {t : Spec}, Sim reg s t →
    (prunResilient reg s items).2 = (specRunResilient reg t items).2 ∧
    Sim reg (prunResilient reg s items).1 (specRunResilient reg t items).1
  | [], _, _, h => ⟨rfl, h⟩
  | it :: rest, s, t, hR => by
    obtain ⟨he, hS⟩ := step_sim reg it hR
    simp only [prunResilient, specRunResilient]
    cases hp : pstep reg s it with
    | mk s1 e1 =>
      cases hq : specStep reg t it with
      | mk t1 e2 =>
        rw [hp, hq] at he hS
        obtain rfl : e1 = e2 := he
        have ih := resilient_sim reg rest hS
        cases e1 with
        | none => exact ih
        | some err =>
          cases err with
          | eventValidation => exact ⟨congrArg _ ih.1, ih.2⟩
          | validation => exact ⟨rfl, hS⟩
          | ontologyValidation => exact ⟨rfl, hS⟩

/-- **C14 for a parser that is fed on after refused events**: the refused events raise and reach no
handler; every other event is dispatched by the same rule as if they had not been there; the counters
count the delivered events. (The premise of the second conjunct is not needed: `resilient_sim`.) -/
theorem resilient_dispatch_exact (reg : Registry) : ∀ (items : List Item) (s : PState) (t : Spec), Sim reg s t →
    (prunResilient reg s items).2 = (specRunResilient reg t items).2 ∧
    (((prunResilient reg s items).2.all (· == .eventValidation)) = true →
      Sim reg (prunResilient reg s items).1 (specRunResilient reg t items).1) :=
  fun items _ _ h => ⟨(resilient_sim reg items h).1, fun _ => (resilient_sim reg items h).2⟩

/-! ### one parser, several documents

`parse()` may be called again on the same parser; `PState.nextDoc` is what `_init()` makes it forget. -/

/-- the specification between two documents: nothing is forgotten but the count of events of the
document -/
def Spec.nextDoc (t : Spec) : Spec := { t with base := t.delivered.length }

theorem nextDoc_sim (reg : Registry) (s : PState) (t : Spec) (h : Sim reg s t) : Sim reg s.nextDoc t.nextDoc :=
  ⟨h.ont, h.log, Nat.zero_add _, h.counts, h.patMap⟩

/-- C14 for a reused parser: whatever was parsed before, the next document is dispatched by the same
rule, with the sources of *all* documents so far; the event counter counts the events of this
document, the per-type counters those of all documents -/
theorem reuse_dispatch_exact (reg : Registry) (doc1 doc2 : List Item) (s1 s2 : PState) (e1 e2 : Option PErr)
    (h1 : prun reg {} doc1 = (s1, e1)) (hok : e1 = none) (h2 : prun reg s1.nextDoc doc2 = (s2, e2)) :
    let t1 := (specRun reg {} doc1).1
    let r2 := specRun reg t1.nextDoc doc2
    e2 = r2.2 ∧ s2.nEvents + t1.delivered.length = r2.1.delivered.length ∧
    (∀ ty, lookupD ty 0 s2.typeCount = countType ty r2.1.delivered) ∧
    ∃ extra, s2.log = r2.1.log ++ extra ∧ (e2 = none → extra = []) ∧ ∀ c ∈ extra, isOntologyCallback c = true := by
  intro t1 r2
  subst hok -- not needed: the relation also holds at the end of a run that failed
  have sim1 : Sim reg s1 t1 := by
    have := (run_sim reg doc1 (sim_init reg)).2
    rwa [h1] at this
  have := dispatch_exact reg doc2 _ s2 _ r2.1 e2 r2.2 (nextDoc_sim reg s1 t1 sim1) h2 rfl
  rwa [show r2.1.base = t1.delivered.length from specRun_base reg doc2 _] at this

/-! ### re-processing an ontology element

`reprocess` (`__process_ontology` run again on an element that was merged before) is a model function
that no machine calls; `reprocess_err` says what it would do to a parser. -/

/-- Between two states: only ontology callbacks were added, the counters did not move. -/
structure ErrStep (s s' : PState) : Prop where
  log : ∃ extra, s'.log = s.log ++ extra ∧ ∀ c ∈ extra, isOntologyCallback c = true
  nEvents : s'.nEvents = s.nEvents
  counts : ∀ ty, lookupD ty 0 s'.typeCount = lookupD ty 0 s.typeCount

theorem processOnt_err (reg : Registry) (s : PState) (types sources : List String) :
    ErrStep s (processOnt reg s types sources) :=
  ⟨⟨_, rfl, fun c hc => by cases List.mem_singleton.mp hc; rfl⟩, rfl, fun ty => lookupD_foldl_setDefault ty _ _⟩

theorem ErrStep.trans {a b c : PState} (h1 : ErrStep a b) (h2 : ErrStep b c) : ErrStep a c := by
  obtain ⟨x, hx, hxo⟩ := h1.log
  obtain ⟨y, hy, hyo⟩ := h2.log
  refine ⟨⟨x ++ y, by rw [hy, hx, List.append_assoc], fun c hc => ?_⟩, h2.nEvents.trans h1.nEvents,
    fun ty => (h2.counts ty).trans (h1.counts ty)⟩
  exact (List.mem_append.mp hc).elim (hxo c) (hyo c)

theorem ErrStep.refl (a : PState) : ErrStep a a :=
  ⟨⟨[], (List.append_nil _).symm, fun _ hc => nomatch hc⟩, rfl, fun _ => rfl⟩

theorem reprocess_err (reg : Registry) : ∀ (n : Nat) (s : PState), ErrStep s (reprocess reg n s)
  | 0, s => ErrStep.refl s
  | n + 1, s => (processOnt_err reg s [] []).trans (reprocess_err reg n _)

end EdxmlProps.C14
