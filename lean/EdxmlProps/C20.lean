/-
C20. Concept mining yields well-formed results: the confidence arithmetic, the seed selection loop,
the reasoning pass (every execution that the checkers accept), graph construction and
`extract_result_set`.

Model: `EdxmlModel/Miner/*.lean`, over exact rationals (the SDK computes in binary floating point; the
correspondence compares the two within rounding).
-/
import EdxmlProps.Lemmas.Search
import EdxmlProps.Lemmas.Miner
namespace EdxmlProps.C20
open Edxml Edxml.Miner

/-- `Search.U` is the same predicate: its closure lemmas serve `Unit01` by unfolding -/
def Unit01 (x : Rat) : Prop := 0 ≤ x ∧ x ≤ 1

theorem foldl_mul_bounds (xs : List Rat) {acc : Rat} (h : 0 ≤ acc) (hx : ∀ x ∈ xs, Unit01 x) :
    0 ≤ xs.foldl (· * ·) acc ∧ xs.foldl (· * ·) acc ≤ acc :=
  List.foldlRecOn (motive := fun r => 0 ≤ r ∧ r ≤ acc) xs _ ⟨h, le_rfl⟩ fun _ hr x hm =>
    ⟨mul_nonneg hr.1 (hx x hm).1, (Search.U.mul_le hr.1 (hx x hm)).trans hr.2⟩

/-- C20: every noisy-or (attribute, concept name and related concept confidence) of confidences in
[0,1] lies in [0,1] -/
theorem noisyOr_unit (cs : List Rat) (h : ∀ c ∈ cs, Unit01 c) : Unit01 (noisyOr cs) :=
  Search.U.compl (foldl_mul_bounds _ zero_le_one (List.forall_mem_map.mpr fun c hc => Search.U.compl (h c hc)))

/-- C20: an attribute is at least as confident as every node confirming it, so one built from nodes
that meet the requested minimum meets it too (`attribute_meets_minimum`) -/
theorem noisyOr_ge_each (cs : List Rat) (h : ∀ c ∈ cs, Unit01 c) (c : Rat) (hc : c ∈ cs) : c ≤ noisyOr cs := by
  -- the product of the complements is at most the factor `1 - c`: split it there
  obtain ⟨l₁, l₂, rfl⟩ := List.append_of_mem hc
  simp only [List.forall_mem_append, List.forall_mem_cons] at h
  have hu (l : List Rat) (hl : ∀ x ∈ l, Unit01 x) : ∀ y ∈ l.map (1 - ·), Unit01 y :=
    List.forall_mem_map.mpr fun x hx => Search.U.compl (hl x hx)
  have hc' : Unit01 (1 - c) := Search.U.compl h.2.1
  have h1 := foldl_mul_bounds _ zero_le_one (hu l₁ h.1)
  have h2 := foldl_mul_bounds _ (mul_nonneg h1.1 hc'.1) (hu l₂ h.2.2)
  unfold noisyOr
  rw [List.map_append, List.map_cons, List.foldl_append, List.foldl_cons]
  exact le_sub_comm.mp (h2.2.trans (mul_le_of_le_one_left hc'.1 h1.2))

theorem attribute_meets_minimum (cs : List Rat) (h : ∀ c ∈ cs, Unit01 c) (m : Rat) (hne : cs ≠ [])
    (hm : ∀ c ∈ cs, m ≤ c) : m ≤ noisyOr cs := by
  obtain ⟨c, hc⟩ := List.exists_mem_of_ne_nil cs hne
  exact (hm c hc).trans (noisyOr_ge_each cs h c hc)

/-- C20: node taints stay in [0,1] (the SDK's formula, for any number of seeds) -/
theorem taintOf_unit (cs : List Rat) (h : ∀ c ∈ cs, Unit01 c) : Unit01 (taintOf cs) :=
  match cs, h with
  | [], _ => Search.U.zero
  | [c], h => h c List.mem_cons_self
  | a :: b :: rest, h =>
    Search.U.compl (List.foldlRecOn (motive := Unit01) (b :: rest) _ (h a List.mem_cons_self) fun _ hx y hy =>
      Search.U.mul (Search.U.compl hx) (Search.U.compl (h y (List.mem_cons_of_mem _ hy))))

/-- ... and over any sequence of mining rounds (the running maximum the SDK keeps) -/
theorem taintHistory_unit (isSeed : Bool) (cs : List Rat) (h : ∀ c ∈ cs, Unit01 c) : Unit01 (taintHistory isSeed cs) := by
  unfold taintHistory
  split
  · exact Search.U.one
  · exact List.foldlRecOn (motive := Unit01) _ _ Search.U.zero fun _ ht k _ =>
      Search.U.max ht (taintOf_unit _ fun c hc => h c (List.mem_of_mem_take hc))

/-- ... and never decrease from one round to the next -/
theorem taintHistory_mono (cs : List Rat) (c : Rat) : taintHistory false cs ≤ taintHistory false (cs ++ [c]) := by
  unfold taintHistory
  simp only [Bool.false_eq_true, if_false, List.length_append, List.length_singleton]
  -- the new round adds one term to the maximum; the earlier terms read prefixes of `cs` only
  rw [List.range_succ (n := cs.length + 1), List.foldl_append, List.foldl_cons, List.foldl_nil]
  refine le_trans (le_of_eq (List.foldl_ext _ _ _ fun t k hk => ?_)) (le_max_left _ _)
  rw [List.take_append_of_le_length (Nat.lt_succ_iff.mp (List.mem_range.mp hk))]

/-- C20: a reasoning step never raises the confidence: that of a node reached from the seed is a
product of factors in [0,1] -/
theorem dijkstra_unit (s e t c : Rat) (hs : Unit01 s) (he : Unit01 e) (ht : Unit01 t) (hc : Unit01 c) :
    Unit01 (dijkstra s e t c) ∧ dijkstra s e t c ≤ s :=
  Search.dijkstra_bounds hs he ht hc

theorem relatedStep_unit (a b c : Rat) (ha : Unit01 a) (hb : Unit01 b) (hc : Unit01 c) : Unit01 (relatedStep a b c) :=
  Search.U.mul (Search.U.mul ha hb) hc

/-- property confidences 0..10 of the ontology, scaled: in [0,1] -/
theorem tenth_unit (k : Nat) (h : k ≤ 10) : Unit01 ((k : Rat) / 10) :=
  have h10 : (0 : Rat) ≤ 10 := Rat.natCast_nonneg
  ⟨div_nonneg Rat.natCast_nonneg h10, div_le_one_of_le₀ (by exact_mod_cast h) h10⟩

/-! ### termination of `_auto_mine` -/

/-- one round of `_auto_mine`: the chosen seed was untainted and ends up with taint 1; no taint
decreases; the nodes stay the same -/
structure Round (ns ns' : List ANode) (seed : Nat) : Prop where
  ids : ns'.map (·.id) = ns.map (·.id)
  mono : ∀ i (h : i < ns.length) (h' : i < ns'.length), ns[i].taint ≤ ns'[i].taint
  seedWas : ∃ i, ∃ (h : i < ns.length) (h' : i < ns'.length), ns[i].id = seed ∧ ns[i].taint ≤ 0 ∧ ns'[i].taint = 1

theorem countP_lt_countP {α : Type} {p q : α → Bool} {l : List α} (h : ∀ x ∈ l, q x = true → p x = true)
    (hx : ∃ x ∈ l, p x = true ∧ ¬ q x = true) : l.countP q < l.countP p := by
  obtain ⟨a, ha, hpa, hqa⟩ := hx
  -- `p` counts what `q` counts and, among the rest, at least `a`
  rw [List.countP_eq_countP_filter_add l p q,
    List.countP_eq_length.mpr fun x hx => h x (List.mem_filter.mp hx).1 (List.mem_filter.mp hx).2,
    ← List.countP_eq_length_filter]
  exact Nat.lt_add_of_pos_right (List.countP_pos_iff.mpr
    ⟨a, List.mem_filter.mpr ⟨ha, (Bool.not_eq_true' _).mpr (Bool.eq_false_iff.mpr hqa)⟩, hpa⟩)

/-- C20: every round of `_auto_mine` leaves strictly fewer candidate seeds, so mining without a
seed ends after at most as many rounds as there are nodes -/
theorem round_decreases (ns ns' : List ANode) (seed : Nat) (r : Round ns ns' seed) :
    (untainted ns').length < (untainted ns).length := by
  have hl : ns'.length = ns.length := by simpa using congrArg List.length r.ids
  obtain ⟨i, h, h', _, h0, h1⟩ := r.seedWas
  -- pair every node with what the round makes of it: `q` = untainted after, `p` = untainted before
  have hz : ∀ z ∈ ns.zip ns', z.1.taint ≤ z.2.taint := fun z hz => by
    obtain ⟨j, hj, rfl⟩ := List.mem_iff_getElem.mp hz
    rw [List.getElem_zip]
    exact r.mono j _ _
  have key : (untainted ((ns.zip ns').map Prod.snd)).length < (untainted ((ns.zip ns').map Prod.fst)).length := by
    simp only [untainted, ← List.countP_eq_length_filter, List.countP_map]
    exact countP_lt_countP (fun z hm hq => decide_eq_true ((hz z hm).trans (of_decide_eq_true hq)))
      ⟨(ns[i], ns'[i]), List.mem_iff_getElem.mpr ⟨i, by simpa [hl] using h, List.getElem_zip⟩,
        decide_eq_true h0, by simp [h1]⟩
  rwa [List.map_fst_zip hl.ge, List.map_snd_zip hl.le] at key

theorem rounds_bounded : ∀ (trace : List (List ANode)) (ns : List ANode),
    List.IsChain (fun a b => ∃ s, Round a b s) (ns :: trace) → trace.length ≤ (untainted ns).length
  | [], _, _ => Nat.zero_le _
  | n1 :: rest, ns, h => by
    obtain ⟨⟨s, hr⟩, hrest⟩ := List.isChain_cons_cons.mp h
    have := rounds_bounded rest n1 hrest
    have := round_decreases ns n1 s hr
    simp only [List.length_cons]; omega

/-! ### universals -/

/-- C20: the mined universals are exactly the pairs present in the events -/
theorem universals_exact (rels : List URel) (k : String) (e : Event) (tt t st s : String) :
    (tt, t, st, s) ∈ universalsOf rels k e ↔
      ∃ r ∈ rels, r.kind = k ∧ tt = r.targetType ∧ st = r.sourceType ∧ t ∈ e.objects r.target ∧ s ∈ e.objects r.source := by
  unfold universalsOf
  simp only [List.mem_flatMap, List.mem_filter, beq_iff_eq, List.mem_map, Prod.mk.injEq]
  constructor
  · rintro ⟨r, ⟨hr, hk⟩, t', ht', s', hs', e1, e2, e3, e4⟩
    exact ⟨r, hr, hk, e1.symm, e3.symm, e2 ▸ ht', e4 ▸ hs'⟩
  · rintro ⟨r, hr, hk, e1, e3, ht, hs⟩
    exact ⟨r, ⟨hr, hk⟩, t, ht, s, hs, e1.symm, rfl, e3.symm, rfl⟩


/-! ### the reasoning pass (`_reason_from`): every execution the checker `run` accepts -/

open EdxmlProps.Search in
/-- C20: whatever the graph, the cut-offs, the order in which equally confident nodes are taken and
the edges admitted on the way: after the pass the seed has confidence 1, every confidence lies in
[0,1], and every other node that got a confidence got one above the requested minimum -/
theorem search_wellformed (g : SGraph) (hg : GraphOk g) (min : Rat) (md seed : Nat) (tr : Trace) (ht : TraceOk tr)
    (s : SState) (cs : List Rat) (h : run g min md seed tr = some (s, cs)) :
    s.sc seed = some 1 ∧ (∀ k c, s.sc k = some c → Unit01 c) ∧ (∀ k c, k ≠ seed → s.sc k = some c → min < c) :=
  have i := (run_spec hg ht h).1
  ⟨i.seedOne, i.unit, i.aboveMin⟩

open EdxmlProps.Search in
/-- C20: the pass ends: no node is processed twice, so the loop runs at most once per node of the
graph -/
theorem search_terminates (g : SGraph) (hg : GraphOk g) (min : Rat) (md seed : Nat) (tr : Trace) (ht : TraceOk tr)
    (s : SState) (cs : List Rat) (h : run g min md seed tr = some (s, cs)) :
    (tr.map Prod.fst).Nodup ∧ ∀ N, (∀ n ∈ tr.map Prod.fst, n < N) → tr.length ≤ N := by
  have hnd := (run_spec hg ht h).2.1
  refine ⟨hnd, fun N hN => ?_⟩
  simpa using (hnd.subperm fun n hn => List.mem_range.mpr (hN n hn)).length_le

open EdxmlProps.Search in
/-- C20: nodes are processed in order of decreasing confidence (the Dijkstra property); `cs` are the
confidences the processed nodes had when it was their turn -/
theorem search_sorted (g : SGraph) (hg : GraphOk g) (min : Rat) (md seed : Nat) (tr : Trace) (ht : TraceOk tr)
    (s : SState) (cs : List Rat) (h : run g min md seed tr = some (s, cs)) :
    cs.Pairwise (· ≥ ·) ∧ cs.length = tr.length :=
  (run_spec hg ht h).2.2

open EdxmlProps.Search in
/-- C20: the confidence of a node is final once the node has been processed -/
theorem search_visited_final (g : SGraph) (hg : GraphOk g) (min : Rat) (md seed : Nat) (tr : Trace) (ht : TraceOk tr)
    (s0 s : SState) (cs : List Rat) (hi : Inv min seed s0) (h : steps g min md s0 tr = some (s, cs)) :
    ∀ k ∈ s0.visited, s.sc k = s0.sc k :=
  steps_frame hg ht hi h

/-- C20: with no slack for the SDK's floating point products (`eps = 0`), the checker the
correspondence runs on the traces of real mining runs (`runC`) refines the exact algorithm: every
annotated trace it accepts is an execution of `run` with the same resulting state, so the theorems
above apply (not conversely: `runC` also rejects traces for their annotations) -/
theorem checker_exact (g : SGraph) (min : Rat) (md seed : Nat) (tr : ATrace) (s : SState)
    (h : runC g min 0 md seed tr = some s) : ∃ cs, run g min md seed tr.erase = some (s, cs) := by
  revert h
  fun_cases runC g min 0 md seed tr with
  | case2 hgd => rintro ⟨⟩; exact ⟨[], if_neg hgd⟩  -- no iteration: the seed fails the guard
  | case3 n es rest hc s1 hv =>  -- the first iteration (`visitC` of the seed), then `stepsC`
    intro h
    obtain ⟨cs, hcs⟩ := Search.stepsC_zero rest s1 h
    refine ⟨1 :: cs, ?_⟩
    rw [ATrace.erase, List.map_cons, run, if_pos hc, ← Search.visitC_zero hv]
    exact hcs ▸ rfl
  | _ => rintro ⟨⟩

/-- C20: the checker that also decides which edges a pass may use (`runC2`) accepts only what `runC`
accepts, with the same resulting confidences -/
theorem scoped_checker_refines (g : SGraph) (min eps : Rat) (md seed : Nat) (sc : String) (tr : FTrace) (s : SState) (q : Equivs)
    (h : runC2 g min eps md seed sc tr = some (s, q)) : runC g min eps md seed tr.proj = some s := by
  revert h
  fun_cases runC2 g min eps md seed sc tr with
  | case1 =>
    intro h
    obtain ⟨a, ha, heq⟩ := Option.map_eq_some_iff.mp h
    cases heq
    exact ha
  | case2 n es rest hc s1 hv =>
    intro h
    rw [FTrace.proj, List.map_cons, runC, if_pos ⟨hc.1, hc.2.1⟩, hv]
    exact Search.stepsC2_sound rest s1 _ h
  | _ => rintro ⟨⟩

/-- C20: an accepted pass never uses an edge of an inter-concept relation (a concept instance does
not leak into a related instance), always uses the edges to hubs and those of intra-concept
relations, and assigns confidences through considered edges only -/
theorem never_crosses_inter (q : Equivs) (min eps scSelf : Rat) (es : List FEdge) (h : scopeOk q min eps scSelf es = true) :
    ∀ f ∈ es, (f.edge.kind = .inter → f.considered = false) ∧
      (f.edge.kind = .toHub ∨ f.edge.kind = .intra → f.considered = true) ∧
      (f.considered = false → f.assigned = none) := by
  intro f hf
  have := List.all_eq_true.mp h f hf
  simp only [Bool.and_eq_true, Bool.or_eq_true, Option.isNone_iff_eq_none] at this
  obtain ⟨h1, h2⟩ := this
  refine ⟨fun hk => ?_, fun hk => ?_, fun hc => h2.resolve_left (by simp [hc])⟩
  · simpa [admissible, hk] using h1.symm
  · rcases hk with hk | hk <;> simpa [admissible, hk] using h1.symm

/-- C20: the confidence of a node's concept being in scope lies in [0,1] -/
theorem inScope_unit (q : Equivs) (concept : String) (hq : ∀ e ∈ q, Unit01 e.2.2) : Unit01 (inScope q concept) := by
  unfold inScope
  simp only
  split
  · exact Search.U.zero
  · exact noisyOr_unit _ (List.forall_mem_map.mpr fun e he => hq e (List.mem_filter.mp he).1)

/-- C20: seed selection (`find_optimal_seed`, checked by `pickOk`) ends mining only when every
candidate is tainted, and otherwise picks an untainted candidate of greatest association confidence -/
theorem pickOk_sound (cands : List Cand) (choice : Option Nat) (hnn : ∀ c ∈ cands, 0 ≤ c.taint)
    (h : pickOk cands choice = true) :
    (choice = none → ∀ c ∈ cands, 0 < c.taint) ∧
    (∀ k, choice = some k → ∃ c ∈ cands, c.id = k ∧ c.taint ≤ 0 ∧
      ∀ d ∈ cands, d.taint ≤ 0 → d.conf ≤ c.conf) := by
  unfold pickOk at h
  constructor
  · rintro rfl c hcm
    simp only [List.isEmpty_iff, List.filter_eq_nil_iff, decide_eq_true_eq] at h
    exact not_le.mp (h c hcm)
  · rintro k rfl
    simp only [List.any_eq_true, List.mem_filter, decide_eq_true_eq, Bool.and_eq_true, beq_iff_eq, List.all_eq_true] at h
    obtain ⟨c, ⟨hcm, hct⟩, hid, hall⟩ := h
    refine ⟨c, hcm, hid, hct, fun d hd hdt => ?_⟩
    have := hall d ⟨hd, hdt⟩
    simp only [seedKeyLe, Bool.or_eq_true, decide_eq_true_eq, Bool.and_eq_true] at this
    rcases this with h1 | ⟨_, h2⟩
    · -- a strictly smaller key means a strictly larger taint: impossible between two untainted candidates
      exact absurd (((sub_lt_sub_iff_left 1).mp h1).trans_le hdt) (hnn c hcm).not_gt
    · exact h2

/-- C20 (coverage): a node with a positive taint has a seed confidence of at least the minimum, which
is what `extract_result_set` asks for. The taint only shows that the node has a seed confidence at
all (a seed has its own 1; a node without any has taint 0); that each is at least the minimum is the
hypothesis `hentries`: above it (`search_wellformed`) or 1 (the node is that seed). -/
theorem coverage (isSeed : Bool) (cs : List Rat) (min : Rat) (hmin : min ≤ 1)
    (hentries : ∀ c ∈ cs, min < c ∨ c = 1) (hseed : isSeed = true → (1 : Rat) ∈ cs)
    (ht : 0 < taintHistory isSeed cs) : ∃ c ∈ cs, min ≤ c := by
  -- any entry will do, and there is one
  obtain ⟨c, hc⟩ : ∃ c, c ∈ cs := by
    match isSeed, cs with
    | true, _ => exact ⟨1, hseed rfl⟩
    | false, [] => exact absurd ht (by rw [show taintHistory false [] = 0 by decide +kernel]; exact lt_irrefl 0)
    | false, c :: _ => exact ⟨c, List.mem_cons_self⟩
  exact ⟨c, hc, (hentries c hc).elim le_of_lt fun h => h ▸ hmin⟩

/-! ### Graph construction from events (`GraphConstructor.add`) -/

section Construct
open Edxml.Miner.Construct

/-- C20 (coverage, first half): every object that an event has for a concept-associated property
gets a node of that event, property and value, whether or not the property takes part in concept
relations and whatever the other properties of the event hold -/
theorem construct_covers (k : Nat) (et : EtDef) (ev : Ev) (p : PropDef) (v : String)
    (hp : p ∈ et.props) (ha : p.assocs ≠ []) (hv : v ∈ objects ev p.name) :
    ∃ n ∈ eventNodes k et ev, n.event = k ∧ n.prop = p.name ∧ n.value = v := by
  by_cases hrel : p.name ∈ relationProps et
  · obtain ⟨r, hr, hc, hx⟩ := mem_relationProps.mp hrel
    rcases hx with hx | hx
    · refine ⟨⟨k, r.source, r.sc, v⟩, ?_, rfl, hx.symm, rfl⟩
      exact mem_eventNodes.mpr (Or.inl ⟨r, hr, hc, Or.inl (mem_sourceNodes.mpr ⟨v, hx ▸ hv, rfl⟩)⟩)
    · refine ⟨⟨k, r.target, r.tc, v⟩, ?_, rfl, hx.symm, rfl⟩
      exact mem_eventNodes.mpr (Or.inl ⟨r, hr, hc, Or.inr (mem_targetNodes.mpr ⟨v, hx ▸ hv, rfl⟩)⟩)
  · obtain ⟨c, hc⟩ := List.exists_mem_of_ne_nil _ ha
    exact ⟨⟨k, p.name, c, v⟩, mem_eventNodes.mpr (Or.inr (mem_plainNodes.mpr ⟨p, hp, hrel, c, hc, v, hv, rfl⟩)),
      rfl, rfl, rfl⟩

/-- nothing is invented: a node stands for an object the event holds for that property -/
theorem nodes_sound (k : Nat) (et : EtDef) (ev : Ev) (n : NodeId) (hn : n ∈ eventNodes k et ev) :
    n.event = k ∧ n.value ∈ objects ev n.prop := by
  rcases mem_eventNodes.mp hn with ⟨r, _, _, h | h⟩ | h
  · obtain ⟨v, hv, rfl⟩ := mem_sourceNodes.mp h; exact ⟨rfl, hv⟩
  · obtain ⟨v, hv, rfl⟩ := mem_targetNodes.mp h; exact ⟨rfl, hv⟩
  · obtain ⟨p, _, _, c, _, v, hv, rfl⟩ := mem_plainNodes.mp h; exact ⟨rfl, hv⟩

/-- what `Ontology.validate()` demands of concept relations: the concepts they name are concepts
their properties are associated with -/
def RelsOk (et : EtDef) : Prop :=
  ∀ r ∈ et.rels, r.isConcept = true →
    (∃ p ∈ et.props, p.name = r.source ∧ r.sc ∈ p.assocs) ∧ (∃ p ∈ et.props, p.name = r.target ∧ r.tc ∈ p.assocs)

theorem nodes_concept (k : Nat) (et : EtDef) (ev : Ev) (hok : RelsOk et) (n : NodeId) (hn : n ∈ eventNodes k et ev) :
    ∃ p ∈ et.props, p.name = n.prop ∧ n.concept ∈ p.assocs := by
  rcases mem_eventNodes.mp hn with ⟨r, hr, hc, h | h⟩ | h
  · obtain ⟨v, _, rfl⟩ := mem_sourceNodes.mp h; exact (hok r hr hc).1
  · obtain ⟨v, _, rfl⟩ := mem_targetNodes.mp h; exact (hok r hr hc).2
  · obtain ⟨p, hp, _, c, hc, v, _, rfl⟩ := mem_plainNodes.mp h; exact ⟨p, hp, rfl, hc⟩

theorem links_closed (k : Nat) (et : EtDef) (ev : Ev) (l : Link) (hl : l ∈ eventLinks k et ev) :
    l.src ∈ eventNodes k et ev ∧ l.dst ∈ eventNodes k et ev ∧ l.src ≠ l.dst ∧ l.src.event = l.dst.event := by
  obtain ⟨r, hr, hc, hl⟩ := mem_eventLinks.mp hl
  obtain ⟨s, hs, t, ht, hst, h⟩ := mem_relLinks.mp hl
  have hsn : s ∈ eventNodes k et ev := mem_eventNodes.mpr (Or.inl ⟨r, hr, hc, Or.inl hs⟩)
  have htn : t ∈ eventNodes k et ev := mem_eventNodes.mpr (Or.inl ⟨r, hr, hc, Or.inr ht⟩)
  have hev : s.event = t.event := (nodes_sound k et ev s hsn).1.trans (nodes_sound k et ev t htn).1.symm
  rcases h with rfl | rfl
  · exact ⟨hsn, htn, hst, hev⟩
  · exact ⟨htn, hsn, hst.symm, hev.symm⟩

/-- inference can go either way: with every link the graph holds the reverse link -/
theorem links_symm (k : Nat) (et : EtDef) (ev : Ev) (l : Link) (hl : l ∈ eventLinks k et ev) :
    ⟨l.dst, l.src⟩ ∈ eventLinks k et ev := by
  obtain ⟨r, hr, hc, hl⟩ := mem_eventLinks.mp hl
  obtain ⟨s, hs, t, ht, hst, h⟩ := mem_relLinks.mp hl
  refine mem_eventLinks.mpr ⟨r, hr, hc, mem_relLinks.mpr ⟨s, hs, t, ht, hst, ?_⟩⟩
  rcases h with rfl | rfl
  · exact Or.inr rfl
  · exact Or.inl rfl

theorem links_complete (k : Nat) (et : EtDef) (ev : Ev) (r : RelDef) (hr : r ∈ et.rels) (hc : r.isConcept = true)
    (a b : String) (ha : a ∈ objects ev r.source) (hb : b ∈ objects ev r.target)
    (hne : (⟨k, r.source, r.sc, a⟩ : NodeId) ≠ ⟨k, r.target, r.tc, b⟩) :
    (⟨⟨k, r.source, r.sc, a⟩, ⟨k, r.target, r.tc, b⟩⟩ : Link) ∈ eventLinks k et ev :=
  mem_eventLinks.mpr ⟨r, hr, hc, mem_relLinks.mpr
    ⟨_, mem_sourceNodes.mpr ⟨a, ha, rfl⟩, _, mem_targetNodes.mpr ⟨b, hb, rfl⟩, hne, Or.inl rfl⟩⟩

theorem graph_covers : ∀ (evs : List (EtDef × Ev)) (k i : Nat) (et : EtDef) (ev : Ev), evs[i]? = some (et, ev) →
    ∀ (p : PropDef) (v : String), p ∈ et.props → p.assocs ≠ [] → v ∈ objects ev p.name →
    ∃ n ∈ graphNodes k evs, n.event = k + i ∧ n.prop = p.name ∧ n.value = v := by
  intro evs k i et ev h p v hp ha hv
  obtain ⟨n, hn, hne⟩ := construct_covers (k + i) et ev p v hp ha hv
  exact ⟨n, mem_graphNodes.mpr ⟨i, et, ev, h, hn⟩, hne⟩

/-- nodes of different events never coincide: event numbers are handed out once -/
theorem graph_nodes_event : ∀ (evs : List (EtDef × Ev)) (k : Nat) (n : NodeId), n ∈ graphNodes k evs →
    k ≤ n.event ∧ n.event < k + evs.length := by
  intro evs k n h
  obtain ⟨i, et, ev, hi, hn⟩ := mem_graphNodes.mp h
  obtain ⟨hlt, _⟩ := List.getElem?_eq_some_iff.mp hi
  rw [(nodes_sound _ et ev n hn).1]
  omega

/-- two properties joined by one inter-concept relation `pa → pb` -/
def gapEt : EtDef :=
  { props := [⟨"pa", "oa", ["ca"]⟩, ⟨"pb", "ob", ["cb"]⟩], rels := [⟨.inter, "pa", "pb", "ca", "cb"⟩] }

/-- the constructor as it was before /repo commit 019d0ed does NOT cover: an event with an object for
the target property of a concept relation and none for the source property loses that object -/
theorem old_construction_misses :
    ∃ (et : EtDef) (ev : Ev) (p : PropDef) (v : String), p ∈ et.props ∧ p.assocs ≠ [] ∧ v ∈ objects ev p.name ∧
      ∀ n ∈ eventNodesOld 0 et ev, ¬ (n.prop = p.name ∧ n.value = v) :=
  ⟨gapEt, [("pb", ["only-target"])], ⟨"pb", "ob", ["cb"]⟩, "only-target", by decide, by decide, by decide, by decide⟩

/-- ... and it agrees with the repaired constructor on every event that has an object for the source
property of each of its concept relations (all the SDK's tests feed such events) -/
theorem old_agrees_when_sources_present (k : Nat) (et : EtDef) (ev : Ev)
    (h : ∀ r ∈ et.rels, r.isConcept = true → objects ev r.source ≠ []) :
    eventNodesOld k et ev = eventNodes k et ev := by
  unfold eventNodesOld eventNodes
  congr 1
  refine List.flatMap_congr fun r hr => ?_
  obtain ⟨hr, hc⟩ := List.mem_filter.mp hr
  rw [relNodesOld, relNodes, if_neg]
  simpa [sourceNodes] using h r hr hc

example : eventNodes 0 gapEt [("pb", ["only-target"])] = [⟨0, "pb", "cb", "only-target"⟩] := by decide
example : eventNodes 3 gapEt [("pa", ["a"]), ("pb", ["b1", "b2"])] =
    [⟨3, "pa", "ca", "a"⟩, ⟨3, "pb", "cb", "b1"⟩, ⟨3, "pb", "cb", "b2"⟩] := by decide
example : (eventLinks 3 gapEt [("pa", ["a"]), ("pb", ["b1", "b2"])]).length = 4 := by decide
example : RelsOk gapEt := by
  intro r hr hc
  simp only [gapEt, List.mem_cons, List.not_mem_nil, or_false] at hr
  subst hr
  exact ⟨⟨⟨"pa", "oa", ["ca"]⟩, by simp [gapEt], rfl, by simp⟩, ⟨⟨"pb", "ob", ["cb"]⟩, by simp [gapEt], rfl, by simp⟩⟩

/-- C20 (coverage, end to end): when mining without a seed has stopped (`find_optimal_seed` found no
untainted node: `pickOk … none`), every object that any event holds for a concept-associated property
has a node with a confidence of at least the requested minimum with respect to one of the mined
seeds: `extract_result_set` puts it into that seed's instance (`covered_in_instance`).
`num` numbers the nodes for the search, `hist k` is what node `k` went through (was it a seed; its
seed confidences in the order the seeds were mined). -/
theorem objects_covered (evs : List (EtDef × Ev)) (num : NodeId → Nat) (cands : List Cand)
    (hist : Nat → Bool × List Rat) (min : Rat) (hmin : min ≤ 1)
    (hcand : ∀ n ∈ graphNodes 0 evs, ∃ c ∈ cands, c.id = num n)
    (htaint : ∀ c ∈ cands, c.taint = taintHistory (hist c.id).1 (hist c.id).2)
    (hentries : ∀ c ∈ cands, ∀ x ∈ (hist c.id).2, min < x ∨ x = 1)
    (hseed : ∀ c ∈ cands, (hist c.id).1 = true → (1 : Rat) ∈ (hist c.id).2)
    (hnn : ∀ c ∈ cands, 0 ≤ c.taint)
    (hstop : pickOk cands none = true)
    (i : Nat) (et : EtDef) (ev : Ev) (hi : evs[i]? = some (et, ev))
    (p : PropDef) (v : String) (hp : p ∈ et.props) (ha : p.assocs ≠ []) (hv : v ∈ objects ev p.name) :
    ∃ n ∈ graphNodes 0 evs, n.event = i ∧ n.prop = p.name ∧ n.value = v ∧ ∃ x ∈ (hist (num n)).2, min ≤ x := by
  obtain ⟨n, hn, h1, h2, h3⟩ := graph_covers evs 0 i et ev hi p v hp ha hv
  obtain ⟨c, hc, hid⟩ := hcand n hn
  have hpos : 0 < c.taint := (pickOk_sound cands none hnn hstop).1 rfl c hc
  rw [htaint c hc] at hpos
  obtain ⟨x, hx, hle⟩ := coverage (hist c.id).1 (hist c.id).2 min hmin (hentries c hc) (hseed c hc) hpos
  exact ⟨n, hn, by omega, h2, h3, x, hid ▸ hx, hle⟩

/-- the hypotheses of `objects_covered` can be met: one event, its only node mined as a seed -/
example : ∃ n ∈ graphNodes 0 [(gapEt, [("pb", ["only-target"])])], n.event = 0 ∧ n.prop = "pb" ∧ n.value = "only-target" ∧
    ∃ x ∈ [(1 : Rat)], (1 / 10 : Rat) ≤ x :=
  objects_covered [(gapEt, [("pb", ["only-target"])])] (fun _ => 0) [⟨0, 1, 1⟩] (fun _ => (true, [1])) (1 / 10) (by decide +kernel)
    (fun _ _ => ⟨⟨0, 1, 1⟩, by simp, rfl⟩)
    (fun c hc => by
      simp only [List.mem_cons, List.not_mem_nil, or_false] at hc
      subst hc
      show (1 : Rat) = taintHistory true [1]
      simp [taintHistory])
    (fun _ _ x hx => by simp only [List.mem_cons, List.not_mem_nil, or_false] at hx; exact Or.inr hx)
    (fun _ _ _ => by simp)
    (fun c hc => by simp only [List.mem_cons, List.not_mem_nil, or_false] at hc; subst hc; exact zero_le_one)
    (by decide +kernel) 0 gapEt [("pb", ["only-target"])] rfl ⟨"pb", "ob", ["cb"]⟩ "only-target" (by simp [gapEt]) (by simp) (by decide)

end Construct

/-! ### `extract_result_set`: from seed confidences to instances -/

section Extract
open Edxml.Miner.Extract

/-- C20: the result set holds node `k` under attribute (`a`, `v`) of the instance of seed `s` exactly
when an event object node with that id, attribute name and value has a confidence of at least the
requested minimum with respect to `s` -/
theorem extract_mem (nodes : List ONode) (min : Rat) (s : Nat) (a v : String) (k : Nat) :
    (∃ i ∈ extract nodes min, i.seed = s ∧ ∃ x ∈ i.attrs, x.name = a ∧ x.value = v ∧ k ∈ x.nodes) ↔
      ∃ n ∈ nodes, n.id = k ∧ n.attr = a ∧ n.value = v ∧ ∃ c, n.sc.lookup s = some c ∧ min ≤ c := by
  rw [mem_extract_levels, mem_seedsOf, mem_attrsOf, mem_attrNodes]
  constructor
  · rintro ⟨_, _, n, hn, hq, ha, hv, hid⟩
    exact ⟨n, hn, hid, ha, hv, qualifies_iff.mp hq⟩
  · rintro ⟨n, hn, hid, ha, hv, hc⟩
    have hq := qualifies_iff.mpr hc
    exact ⟨⟨n, hn, hq⟩, ⟨n, hn, hq, ha, hv⟩, n, hn, hq, ha, hv, hid⟩

/-- every reported node meets the requested minimum (so the attribute does: `attribute_meets_minimum`) -/
theorem extract_meets_minimum (nodes : List ONode) (min : Rat) (i : Instance) (hi : i ∈ extract nodes min)
    (x : Attribute) (hx : x ∈ i.attrs) (k : Nat) (hk : k ∈ x.nodes) :
    ∃ n ∈ nodes, n.id = k ∧ ∃ c, n.sc.lookup i.seed = some c ∧ min ≤ c := by
  obtain ⟨n, hn, hid, _, _, hc⟩ := (extract_mem nodes min i.seed x.name x.value k).mp ⟨i, hi, rfl, x, hx, rfl, rfl, hk⟩
  exact ⟨n, hn, hid, hc⟩

theorem extract_shape (nodes : List ONode) (min : Rat) :
    ((extract nodes min).map (·.seed)).Nodup ∧
    ∀ i ∈ extract nodes min, (i.attrs.map fun x => (x.name, x.value)).Nodup ∧ i.attrs ≠ [] ∧ ∀ x ∈ i.attrs, x.nodes ≠ [] := by
  refine ⟨map_seed_extract nodes min ▸ nodup_dedup _, fun i hi => ?_⟩
  obtain ⟨s, hs, rfl⟩ := List.mem_map.mp hi
  refine ⟨?_, ?_, fun x hx => ?_⟩
  · simp only [List.map_map, Function.comp_def, Prod.mk.eta, List.map_id']
    exact nodup_dedup _
  · obtain ⟨n, hn, hq⟩ := mem_seedsOf.mp hs
    exact List.ne_nil_of_mem (List.mem_map_of_mem (mem_attrsOf.mpr ⟨n, hn, hq, rfl, rfl⟩))
  · obtain ⟨av, hav, rfl⟩ := List.mem_map.mp hx
    obtain ⟨n, hn, hq, ha, hv⟩ := mem_attrsOf.mp (show (av.1, av.2) ∈ attrsOf nodes min s from hav)
    exact List.ne_nil_of_mem (mem_attrNodes.mpr ⟨n, hn, hq, ha, hv, rfl⟩)

/-- C20 (coverage, last step): a node with a confidence of at least the minimum with respect to some
seed (what `coverage` concludes) is reported in an instance -/
theorem covered_in_instance (nodes : List ONode) (min : Rat) (n : ONode) (hn : n ∈ nodes)
    (hkeys : (n.sc.map (·.1)).Nodup) (h : ∃ c ∈ n.sc.map (·.2), min ≤ c) :
    ∃ i ∈ extract nodes min, ∃ x ∈ i.attrs, x.name = n.attr ∧ x.value = n.value ∧ n.id ∈ x.nodes := by
  obtain ⟨c, hc, hle⟩ := h
  obtain ⟨⟨s, c'⟩, hp, rfl⟩ := List.mem_map.mp hc
  obtain ⟨i, hi, _, hx⟩ := (extract_mem nodes min s n.attr n.value n.id).mpr
    ⟨n, hn, rfl, rfl, rfl, c', lookup_of_mem_nodup hkeys hp, hle⟩
  exact ⟨i, hi, hx⟩

/-- asking for a higher minimum never adds anything (mining another seed with a higher minimum on the
same graph can only prune the instances mined before) -/
theorem extract_antitone (nodes : List ONode) (min min' : Rat) (h : min ≤ min') (s : Nat) (a v : String) (k : Nat)
    (hr : ∃ i ∈ extract nodes min', i.seed = s ∧ ∃ x ∈ i.attrs, x.name = a ∧ x.value = v ∧ k ∈ x.nodes) :
    ∃ i ∈ extract nodes min, i.seed = s ∧ ∃ x ∈ i.attrs, x.name = a ∧ x.value = v ∧ k ∈ x.nodes := by
  obtain ⟨n, hn, hid, ha, hv, c, hc, hle⟩ := (extract_mem nodes min' s a v k).mp hr
  exact (extract_mem nodes min s a v k).mpr ⟨n, hn, hid, ha, hv, c, hc, le_trans h hle⟩

def exNodes : List ONode :=
  [⟨0, "oa:", "v1", [(0, 1), (2, 1/20)]⟩, ⟨1, "ob:", "v2", [(0, 9/10)]⟩, ⟨2, "oa:", "v1", [(2, 1), (0, 1/2)]⟩]

example : (extract exNodes (1/10)).map (fun i => (i.seed, i.attrs.map fun x => (x.name, x.value, x.nodes))) =
    [(2, [("oa:", "v1", [2])]), (0, [("ob:", "v2", [1]), ("oa:", "v1", [0, 2])])] := by decide +kernel

end Extract

/-! ### Non-vacuity -/

example : noisyOr [1/2, 1/2] = 3/4 := by decide +kernel
example : taintOf [1/2, 1/2, 1/2] = 5/8 := by decide +kernel   -- not the noisy-or 7/8: the SDK's reduce formula
example : dijkstra 1 (1/5) 0 (4/5) = 4/25 := by decide +kernel

/-- a three node graph: the seed 0 reaches node 1 (confidence 9/10) and, through node 1, node 2
(9/10 · 1/2, halved again by the taint of node 2) -/
def exGraph : SGraph := { conf := fun _ => 1, taint := fun k => if k = 2 then 1/2 else 0 }
def exTrace : Trace := [(0, [⟨1, 9/10⟩, ⟨2, 1/10⟩]), (1, [⟨2, 1/2⟩, ⟨0, 1⟩]), (2, [])]
example : (run exGraph (1/100) 10 0 exTrace).map (·.2) = some [1, 9/10, 9/40] := by decide +kernel
example : ((run exGraph (1/100) 10 0 exTrace).map fun r => [r.1.sc 0, r.1.sc 1, r.1.sc 2]) =
    some [some 1, some (9/10), some (9/40)] := by decide +kernel
-- processing the less confident node first is not an execution of the algorithm
example : run exGraph (1/100) 10 0 [(0, [⟨1, 9/10⟩, ⟨2, 1/10⟩]), (2, []), (1, [⟨2, 1/2⟩])] = none := by decide +kernel
-- nor is stopping while a candidate that passes the guard is left
example : (run exGraph (1/100) 10 0 [(0, [⟨1, 9/10⟩, ⟨2, 1/10⟩])]).isNone = true := by decide +kernel
example : shareBranch "ca.x" "ca" = true ∧ shareBranch "ca" "cb" = false := by decide +kernel
example : inScope [("ca", 0, 1), ("cb", 3, 1/2)] "ca.x" = 1 := by decide +kernel
example : EdxmlProps.Search.GraphOk exGraph :=
  ⟨fun _ => Search.U.one, fun k => by
    simp only [exGraph]
    split
    · exact ⟨by decide +kernel, by decide +kernel⟩
    · exact Search.U.zero⟩

end EdxmlProps.C20
