/-
C06 — Push parsing does not depend on how the byte stream is cut into chunks.

At the level of the parser machine a chunking of the byte stream is a partition of the sequence
of completed top-level elements. Such a partition is immaterial, and the one step that touches the
lxml tree never reaches input received but not yet delivered (`step_ignores_pending_input`).
-/
import EdxmlProps.Lemmas.Parser
namespace EdxmlProps.C06
open Edxml

theorem feed_join (reg : Registry) (cs : List (List Item)) (s : PState) :
    feedAll reg s cs = prun reg s cs.flatten := by
  fun_induction feedAll reg s cs with
  | case1 => rfl
  | case2 s c cs s' h ih => rw [List.flatten_cons, prun_append, h, ih]
  | case3 s c cs s' e h => rw [List.flatten_cons, prun_append, h]

/-- **Chunking is irrelevant**: any two partitions of the same element sequence give the same
callbacks, counters, retained tree and error. -/
theorem chunking_irrelevant (reg : Registry) (cs₁ cs₂ : List (List Item)) (s : PState)
    (h : cs₁.flatten = cs₂.flatten) : feedAll reg s cs₁ = feedAll reg s cs₂ := by
  rw [feed_join, feed_join, h]

/-- One chunk, element-wise feeding and everything in between agree with pull-parsing the whole. -/
theorem push_eq_pull (reg : Registry) (items : List Item) (cs : List (List Item))
    (h : cs.flatten = items) : feedAll reg {} cs = prun reg {} items := by
  rw [feed_join, h]

/-- The deletion rule `del root[1]` acts on the whole lxml tree, which also holds the siblings
received after the element being processed (`pending`). As long as a processed child precedes the
current element, pending input is left alone and does not influence what is deleted.
(`C19.deletion_hits_processed_child`: the premise holds whenever the machine deletes.) -/
theorem step_ignores_pending_input (processed : List Kind) (current : Kind) (pending : List Kind)
    (h : 1 ≤ processed.length) :
    ((processed ++ [current]) ++ pending).eraseIdx 1 = (processed ++ [current]).eraseIdx 1 ++ pending := by
  apply List.eraseIdx_append_of_lt_length
  simp; omega

def exReg : Registry where
  typeH := [("ta", [0])]
  srcH := [("/a/.*", [1])]
  reMatch := [("/a/.*", "/a/b/")]
  overridden := false
  validate := true

def exDoc : List Item :=
  [.ont .ok ["ta"] ["/a/b/"], .event 1 "ta" "/a/b/" true, .ont .ok ["tb"] [], .foreign 2,
   .event 3 "ta" "/a/b/" true]

example : feedAll exReg {} [[.ont .ok ["ta"] ["/a/b/"], .event 1 "ta" "/a/b/" true], [], [.ont .ok ["tb"] []],
    [.foreign 2, .event 3 "ta" "/a/b/" true]] = prun exReg {} exDoc :=
  push_eq_pull exReg exDoc _ rfl
example : (prun exReg {} exDoc).1.log =
    [.ontology ["ta"] ["/a/b/"], .handler 0 1, .handler 1 1, .ontology ["ta", "tb"] ["/a/b/"], .foreign 2,
     .handler 0 3, .handler 1 3] := by decide +kernel

end EdxmlProps.C06
