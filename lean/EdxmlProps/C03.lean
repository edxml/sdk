/-
C03. The validation gate decides exactly EDXML event validity, whatever the history.

Model: `EdxmlModel/DataType/Gate.lean` (value space recognisers = what libxml2 accepts for the
`<data>` patterns generated by `DataType.generate_relaxng`; event structure = the pattern generated
by `EventType.generate_relax_ng`; `EventValidator` with its schema caches).

The value-space theorems are stated one level below `accepts dt`: about `acceptsFam` for the families
it decides itself (boolean, enum, uri, file) and about the recogniser of the family otherwise
(`acceptsInt`, `acceptsHex`, ...); nothing here is about `family`, the parser of data type names. The one
theorem about full `accepts` is in C10 (`objectType_upgrade_value_space`), that on `datetime` in C13
(`accepts_datetime_iff`); decimals have only the verdict on normal forms
(`Edxml.Gate.renderScaled_accepted_iff`, `Lemmas/Numerals.lean`). geo has examples only; sequence, float
and string have no statement: their recognisers are only compared with libxml2 by the harness.
-/
import EdxmlProps.Lemmas.Digits
import EdxmlProps.Lemmas.Split
import EdxmlProps.Lemmas.Base64
import EdxmlProps.Lemmas.Keyed
namespace EdxmlProps.C03
open Edxml Edxml.Gate Edxml.Ont

/-! ### integers and literal value spaces -/

theorem unsigned_pattern_iff (cs : List Char) : canonNat cs = true ↔ ∃ n : Nat, cs = renderNat n :=
  ⟨fun h => ⟨natVal cs, (render_natVal h).symm⟩, fun ⟨n, h⟩ => h ▸ canonNat_render n⟩

theorem signed_pattern_iff (cs : List Char) : canonInt cs = true ↔ ∃ z : Int, cs = renderInt z :=
  ⟨fun h => ⟨intVal cs, (render_intVal h).symm⟩, fun ⟨z, h⟩ => h ▸ canonInt_render z⟩

theorem intRange_unsigned {kind : String} {lo hi : Int} (h : intRange kind false = some (lo, hi)) : lo = 0 := by
  unfold intRange at h
  split at h <;> simp_all

/-- C03, integer families: the gate accepts exactly `str(z)` for the integers `z` of the range. -/
theorem acceptsInt_iff (kind : String) (signed : Bool) (lo hi : Int) (hr : intRange kind signed = some (lo, hi))
    (cs : List Char) : acceptsInt kind signed cs = true ↔ ∃ z : Int, lo ≤ z ∧ z ≤ hi ∧ cs = renderInt z := by
  simp only [acceptsInt, hr, Bool.and_eq_true, decide_eq_true_eq]
  constructor
  · rintro ⟨⟨hc, h1⟩, h2⟩
    refine ⟨intVal cs, h1, h2, (render_intVal ?_).symm⟩
    cases signed
    · exact canonInt_of_canonNat hc
    · exact hc
  · rintro ⟨z, h1, h2, rfl⟩
    rw [intVal_render]
    refine ⟨⟨?_, h1⟩, h2⟩
    cases signed
    · exact canonNat_renderInt (intRange_unsigned hr ▸ h1)
    · exact canonInt_render z

theorem accepts_boolean_iff (info : StrInfo) (v : String) :
    acceptsFam .boolean info v = true ↔ v = "true" ∨ v = "false" := by
  simp [acceptsFam]

theorem accepts_enum_iff (vs : List String) (info : StrInfo) (v : String) :
    acceptsFam (.enum vs) info v = true ↔ v ∈ vs := by
  simp [acceptsFam]

theorem accepts_uri_file (info : StrInfo) (v : String) :
    acceptsFam .uri info v = true ∧ acceptsFam .file info v = true := ⟨rfl, rfl⟩

/-! ### hexadecimal values -/

theorem hexTail_iff (k : Nat) (sep : List Char) : ∀ (n : Nat) (cs : List Char),
    hexTail k sep n cs = true ↔
      ∃ gs : List (List Char), gs.length = n ∧ (∀ g ∈ gs, g.length = k ∧ g.all isLowerHex = true) ∧
        cs = (gs.map (sep ++ ·)).flatten
  | 0, cs => by
    simp only [hexTail, List.isEmpty_iff, List.length_eq_zero_iff]
    exact ⟨fun h => ⟨[], rfl, by simp, h⟩, fun ⟨gs, hl, _, h⟩ => by rw [h, hl]; rfl⟩
  | n + 1, cs => by
    simp only [hexTail, Bool.and_eq_true, decide_eq_true_eq]
    constructor
    · rintro ⟨hp, ⟨hlen, hall⟩, hrest⟩
      obtain ⟨t, rfl⟩ := List.isPrefixOf_iff_prefix.mp hp
      rw [List.drop_left] at hlen hall hrest
      obtain ⟨gs, hl, hg, hcs⟩ := (hexTail_iff k sep n _).mp hrest
      refine ⟨t.take k :: gs, by simp [hl], ?_, ?_⟩
      · simp only [List.mem_cons, forall_eq_or_imp]
        exact ⟨⟨by rw [List.length_take]; omega, hall⟩, hg⟩
      · rw [List.map_cons, List.flatten_cons, ← hcs, List.append_assoc, List.take_append_drop]
    · rintro ⟨gs, hl, hg, rfl⟩
      match gs, hl with
      | g :: gs, hl =>
        simp only [List.mem_cons, forall_eq_or_imp] at hg
        simp only [List.map_cons, List.flatten_cons, List.append_assoc, List.drop_left, List.take_left' hg.1.1,
          List.drop_left' hg.1.1]
        exact ⟨List.isPrefixOf_iff_prefix.mpr ⟨_, rfl⟩, ⟨by simp only [List.length_append]; omega, hg.1.2⟩,
          (hexTail_iff k sep n _).mpr ⟨gs, by simpa using hl, hg.2, rfl⟩⟩

theorem accepts_hex_iff (n : Nat) (cs : List Char) :
    acceptsHex n none cs = true ↔ cs.length = 2 * n ∧ ∀ c ∈ cs, isLowerHex c = true := by
  simp [acceptsHex]

/-- `hex:n:g:sep`: `n / g` groups of `2g` lower-case hex digits joined by the separator, whatever
character that is -/
theorem accepts_hex_grouped_iff (n g : Nat) (sep : String) (hg : g ≠ 0) (cs : List Char) :
    acceptsHex n (some (g, sep)) cs = true ↔
      ∃ g₀ : List Char, ∃ gs : List (List Char), 1 + gs.length = n / g ∧
        (∀ x ∈ g₀ :: gs, x.length = 2 * g ∧ x.all isLowerHex = true) ∧
        cs = g₀ ++ (gs.map (sep.toList ++ ·)).flatten := by
  -- the first group is a group of `hexTail` whose separator has been taken off
  have h : acceptsHex n (some (g, sep)) cs = (decide (1 ≤ n / g) && hexTail (2 * g) sep.toList (n / g) (sep.toList ++ cs)) := by
    simp only [acceptsHex, beq_iff_eq, hg, if_false]
    rcases n / g with _ | m
    · rfl
    · simp only [hexTail, List.drop_left, Nat.add_sub_cancel, Bool.and_assoc,
        List.isPrefixOf_iff_prefix.mpr (List.prefix_append _ _), Bool.true_and]
  simp only [h, Bool.and_eq_true, decide_eq_true_eq, hexTail_iff]
  constructor
  · rintro ⟨h1, gs, hl, hall, e⟩
    match gs, hl with
    | [], hl => exact absurd hl (by simp only [List.length_nil]; omega)
    | g₀ :: gs, hl =>
      rw [List.map_cons, List.flatten_cons, List.append_assoc] at e
      exact ⟨g₀, gs, by rw [← hl, List.length_cons, Nat.add_comm], hall, List.append_cancel_left e⟩
  · rintro ⟨g₀, gs, hl, hall, rfl⟩
    exact ⟨by omega, g₀ :: gs, by rw [← hl, List.length_cons, Nat.add_comm], hall,
      by rw [List.map_cons, List.flatten_cons, List.append_assoc]⟩

/-! ### families recognised by splitting at a separator -/

theorem octet_iff (cs : List Char) : isOctet cs = true ↔ ∃ n, n ≤ 255 ∧ cs = renderNat n := by
  simp only [isOctet, Bool.and_eq_true, decide_eq_true_eq]
  constructor
  · rintro ⟨hc, hv⟩
    exact ⟨natVal cs, hv, (render_natVal hc).symm⟩
  · rintro ⟨n, hn, rfl⟩
    exact ⟨canonNat_render n, by rwa [natVal_render]⟩

/-- C03: `ip:v4` is exactly the dotted quads of four numbers 0..255 without zero padding -/
theorem accepts_ipv4_iff (cs : List Char) :
    acceptsIpv4 cs = true ↔ ∃ a b c d : Nat, a ≤ 255 ∧ b ≤ 255 ∧ c ≤ 255 ∧ d ≤ 255 ∧
      cs = renderNat a ++ '.' :: renderNat b ++ '.' :: renderNat c ++ '.' :: renderNat d := by
  unfold acceptsIpv4
  simp only [Bool.and_eq_true, beq_iff_eq, List.all_eq_true]
  rw [split_spec '.' (fun parts => parts.length = 4 ∧ ∀ p ∈ parts, isOctet p = true) cs
    (by rintro _ ⟨h, -⟩ rfl; cases h)
    (by
      rintro parts ⟨-, ho⟩ p hp x hx rfl
      obtain ⟨n, -, rfl⟩ := (octet_iff p).mp (ho p hp)
      exact absurd (List.all_eq_true.mp (all_isDigit_render n) _ hx) (by decide))]
  constructor
  · rintro ⟨parts, ⟨hl, ho⟩, rfl⟩
    match parts, hl with
    | [p1, p2, p3, p4], _ =>
      simp only [List.mem_cons, List.mem_nil_iff, or_false, forall_eq_or_imp, forall_eq, octet_iff] at ho
      obtain ⟨⟨a, ha, rfl⟩, ⟨b, hb, rfl⟩, ⟨c, hc, rfl⟩, ⟨d, hd, rfl⟩⟩ := ho
      exact ⟨a, b, c, d, ha, hb, hc, hd, by simp [List.intercalate_cons_cons]⟩
  · rintro ⟨a, b, c, d, ha, hb, hc, hd, rfl⟩
    refine ⟨[renderNat a, renderNat b, renderNat c, renderNat d], ⟨rfl, ?_⟩, by simp [List.intercalate_cons_cons]⟩
    simp only [List.mem_cons, List.mem_nil_iff, or_false, forall_eq_or_imp, forall_eq, octet_iff]
    exact ⟨⟨a, ha, rfl⟩, ⟨b, hb, rfl⟩, ⟨c, hc, rfl⟩, ⟨d, hd, rfl⟩⟩

theorem lowerHex_ne (x : Char) (h : isLowerHex x = true) : x ≠ ':' ∧ x ≠ '-' := by
  constructor <;> (intro hc; subst hc; revert h; decide)

/-- C03: `ip:v6` is exactly eight groups of four lower case hexadecimal digits joined by colons -/
theorem accepts_ipv6_iff (cs : List Char) :
    acceptsIpv6 cs = true ↔ ∃ parts : List (List Char), (parts.length = 8 ∧ ∀ p ∈ parts, p.length = 4 ∧ p.all isLowerHex = true) ∧
      cs = [':'].intercalate parts := by
  unfold acceptsIpv6
  simp only [Bool.and_eq_true, beq_iff_eq, List.all_eq_true]
  exact split_spec ':' (fun parts => parts.length = 8 ∧ ∀ p ∈ parts, p.length = 4 ∧ ∀ x ∈ p, isLowerHex x = true) cs
    (by rintro _ ⟨h, -⟩ rfl; cases h)
    (by intro parts h p hp x hx; exact (lowerHex_ne x ((h.2 p hp).2 x hx)).1)

/-- C03: `uuid` is exactly 8-4-4-4-12 lower case hexadecimal digits -/
theorem accepts_uuid_iff (cs : List Char) :
    acceptsUuid cs = true ↔ ∃ parts : List (List Char), (parts.map List.length = [8, 4, 4, 4, 12] ∧
      ∀ p ∈ parts, p.all isLowerHex = true) ∧ cs = ['-'].intercalate parts := by
  unfold acceptsUuid
  simp only [Bool.and_eq_true, beq_iff_eq, List.all_eq_true]
  exact split_spec '-' (fun parts => parts.map List.length = [8, 4, 4, 4, 12] ∧ ∀ p ∈ parts, ∀ x ∈ p, isLowerHex x = true) cs
    (by rintro _ ⟨h, -⟩ rfl; cases h)
    (by intro parts h p hp x hx; exact (lowerHex_ne x (h.2 p hp x hx)).2)

/-- C03: `base64` is exactly the canonical notations (RFC 4648, padded, no white space) of the non-empty
octet strings within the length limit of the type -/
theorem accepts_base64_iff (maxLen : Nat) (cs : List Char) :
    acceptsBase64 maxLen cs = true ↔
      ∃ bs : List Nat, (∀ b ∈ bs, b < 256) ∧ bs ≠ [] ∧ (maxLen = 0 ∨ bs.length ≤ maxLen) ∧ cs = b64Encode bs := by
  unfold acceptsBase64
  constructor
  · intro h
    split at h
    · rename_i n hn
      obtain ⟨bs, hb, hne, rfl, rfl⟩ := base64DecodedLength_eq_some.mp hn
      simp only [Bool.and_eq_true, decide_eq_true_eq, Bool.or_eq_true, beq_iff_eq] at h
      exact ⟨bs, hb, hne, h.2, rfl⟩
    · cases h
  · rintro ⟨bs, hb, hne, hmax, rfl⟩
    simp only [base64DecodedLength_eq_some.mpr ⟨bs, hb, hne, rfl, rfl⟩, Bool.and_eq_true, decide_eq_true_eq, Bool.or_eq_true,
      beq_iff_eq]
    exact ⟨List.length_pos_iff.mpr hne, hmax⟩

/-- that decoding gives the octets back is `Edxml.Gate.b64Decode_b64Encode` -/
theorem b64Decode_b64Encode (bs : List Nat) (hb : ∀ b ∈ bs, b < 256) : b64Encode (b64Decode (b64Encode bs)) = b64Encode bs := by
  rw [Edxml.Gate.b64Decode_b64Encode bs hb]

/-! ### the event gate -/

theorem gate_iff (et : GEventType) (info : String → String → StrInfo) (e : Event) :
    gate et info e = true ↔
      eventTypeAttrOk e.type = true ∧ sourceUriOk e.source = true ∧ (∀ p ∈ e.parents, parentOk p = true) ∧
      (∀ pv ∈ e.props, propOk et info pv = true) ∧ (∀ p ∈ et.props, cardOk e p = true) ∧
      (∀ a ∈ e.atts, attOk et a = true) ∧ (∀ kv ∈ e.foreign, foreignOk kv = true) := by
  simp only [gate, Bool.and_eq_true, List.all_eq_true, and_assoc]

theorem propOk_iff (et : GEventType) (info : String → String → StrInfo) (name : String) (objs : List String) :
    propOk et info (name, objs) = true ↔
      (objs = [] ∧ et.props.find? (·.name == name) = none) ∨
      ∃ p, et.props.find? (·.name == name) = some p ∧ ∀ v ∈ objs, accepts p.dataType (info name v) v = true := by
  unfold propOk
  cases et.props.find? (·.name == name) with
  | none => simp only [List.isEmpty_iff, and_true, reduceCtorEq, false_and, exists_false, or_false]
  | some p => simp only [List.all_eq_true, reduceCtorEq, and_false, false_or, Option.some.injEq, exists_eq_left']

theorem propOk_declared {et : GEventType} {info : String → String → StrInfo} {pv : String × List String}
    (h : propOk et info pv = true) {v : String} (hv : v ∈ pv.2) : ∃ p ∈ et.props, p.name = pv.1 := by
  rcases (propOk_iff et info pv.1 pv.2).mp h with ⟨h0, -⟩ | ⟨p, hf, -⟩
  · rw [h0] at hv; cases hv
  · exact ⟨p, find?_key_some hf⟩

theorem cardOk_iff (e : Event) (p : GProp) :
    cardOk e p = true ↔ (p.optional = false → 1 ≤ (e.objects p.name).length) ∧
      (p.multivalued = false → (e.objects p.name).length ≤ 1) := by
  unfold cardOk
  cases p.optional <;> cases p.multivalued <;> simp

theorem attOk_iff (et : GEventType) (name : String) (items : List (String × String)) :
    attOk et (name, items) = true ↔
      (items = [] ∧ et.attachments.find? (·.name == name) = none) ∨
      ∃ d, et.attachments.find? (·.name == name) = some d ∧
        ∀ iv ∈ items, 1 ≤ iv.1.length ∧ iv.1.length ≤ 40 ∧ attValueOk d.base64 iv.2 = true := by
  unfold attOk
  cases et.attachments.find? (·.name == name) with
  | none => simp only [List.isEmpty_iff, and_true, reduceCtorEq, false_and, exists_false, or_false]
  | some d => simp only [List.all_eq_true, Bool.and_eq_true, decide_eq_true_eq, and_assoc, reduceCtorEq, and_false, false_or,
      Option.some.injEq, exists_eq_left']

/-! ### the validator's caches -/

/-- the counter is zero only for an ontology without event types (a fresh or a cleared one) -/
def OntInv (o : GOnt) : Prop := o.version = 0 → o.types = []

theorem ontInv_apply (o : GOnt) (op : OntOp) : OntInv (o.apply op) := by
  cases op with
  | clear => exact fun _ => rfl
  | _ => exact fun h => absurd h (Nat.succ_ne_zero _)

/-- The long-lived validator never consults a cached schema: whenever the ontology defines the
event type, the cache has just been emptied. -/
theorem cache_never_consulted (o : GOnt) (v : VState) (hi : OntInv o) (hs : v.seen = 0) (name : String)
    (et : GEventType) (h : o.lookup name = some et) : (if o.version > v.seen then [] else v.cache) = [] := by
  have : o.version ≠ 0 := fun h0 => by
    simp [GOnt.lookup, hi h0] at h
  rw [hs, if_pos (by omega)]

theorem validator_eq_fresh (o : GOnt) (v : VState) (hi : OntInv o) (hs : v.seen = 0)
    (info : String → String → StrInfo) (ns : Bool) (e : Event) :
    (v.validate o info ns e).1 = freshVerdict o info e ∧ (v.validate o info ns e).2.seen = 0 := by
  unfold VState.validate freshVerdict
  cases h : o.lookup e.type with
  | none => exact ⟨rfl, hs⟩
  | some et =>
    simp only [cache_never_consulted o v hi hs _ et h, List.find?_nil]
    exact ⟨trivial, hs⟩

theorem runHist_eq_spec (ops : List HistOp) (o : GOnt) (v : VState) (hi : OntInv o) (hs : v.seen = 0) :
    runHist o v ops = specHist o ops := by
  fun_induction runHist o v ops with
  | case1 => rfl
  | case2 o v op rest ih => exact ih (ontInv_apply o op) hs
  | case3 o v ns e info rest r ih =>
    have := validator_eq_fresh o v hi hs info ns e
    rw [specHist, ← this.1, ← ih hi this.2]

/-- C03, histories: for every sequence of ontology mutations (including `clear()`) and validations,
starting from a new ontology and a new validator, each verdict is that of the gate generated from the
ontology as it is at that moment, whatever was validated before and whatever the ontology was earlier. -/
theorem validator_history_independent (ops : List HistOp) : runHist {} {} ops = specHist {} ops :=
  runHist_eq_spec ops {} {} (fun _ => rfl) rfl

/-! ### Non-vacuity and sanity -/

example : family "number:tinyint:signed" = .int "tinyint" true := by decide +kernel
example : accepts "number:tinyint:signed" ⟨false, false, true, none⟩ "-128" = true := by decide +kernel
example : accepts "number:tinyint:signed" ⟨false, false, true, none⟩ "-129" = false := by decide +kernel
example : accepts "number:tinyint" ⟨false, false, true, none⟩ "-0" = false := by decide +kernel
example : accepts "hex:4:2:." ⟨false, false, true, none⟩ "abcd.0123" = true := by decide +kernel
example : accepts "hex:4:2:." ⟨false, false, true, none⟩ "abcdX0123" = false := by decide +kernel
example : accepts "ip:v4" ⟨false, false, true, none⟩ "192.168.1.255" = true := by decide +kernel
example : accepts "ip:v4" ⟨false, false, true, none⟩ "192.168.1.256" = false := by decide +kernel
example : accepts "datetime" ⟨false, false, true, none⟩ "2020-02-29T23:59:59.999999Z" = true := by decide +kernel
example : accepts "datetime" ⟨false, false, true, none⟩ "2021-02-29T23:59:59.999999Z" = false := by decide +kernel
example : accepts "geo:point" ⟨false, false, true, none⟩ "90.000000,0.000000" = true := by decide +kernel
example : accepts "geo:point" ⟨false, false, true, none⟩ "90.000000,1.000000" = false := by decide +kernel
example : accepts "number:decimal:5:2" ⟨false, false, true, none⟩ "123.45" = true := by decide +kernel
example : accepts "number:decimal:5:2" ⟨false, false, true, none⟩ "1234.56" = false := by decide +kernel
example : accepts "base64:0" ⟨false, false, true, none⟩ "YQ==" = true := by decide +kernel
example : accepts "base64:0" ⟨false, false, true, none⟩ "YR==" = false := by decide +kernel
example : renderInt (-128) = ['-', '1', '2', '8'] := by decide +kernel

/-- a history on which a counter-recording cache would go stale (clear, then the same counter value) -/
example :
    let et₁ : GEventType := { props := [{ name := "p", dataType := "boolean", optional := false, multivalued := false }], attachments := [] }
    let et₂ : GEventType := { props := [{ name := "p", dataType := "number:tinyint", optional := false, multivalued := false }], attachments := [] }
    let e : Event := { type := "t", source := "/s/", props := [("p", ["true"])] }
    let info : String → String → StrInfo := fun _ _ => ⟨false, false, true, none⟩
    runHist {} {} [.mutate (.define "t" et₁), .validate false e info, .mutate .clear, .mutate (.define "t" et₂),
      .validate false e info] = [true, false] := by decide +kernel

example : b64Encode [77, 97, 110] = "TWFu".toList ∧ b64Encode [77, 97] = "TWE=".toList ∧ b64Encode [77] = "TQ==".toList := by
  -- evaluated with the alphabet in the form of `b64Alphabet_eq`, not as a string literal
  simp only [b64Encode, Gate.b64Char, b64Alphabet_eq]
  decide +kernel
example : acceptsBase64 0 "TWE=".toList = true ∧ acceptsBase64 0 "TWF=".toList = false := by decide +kernel

end EdxmlProps.C03
