/-
C11 — Ontology update yields the element-wise newest definitions and nothing else.

The theorems are about `updList` (one kind of element, keyed by name) for an arbitrary comparison
`cmp`, all read off `UpdSpec` (`updList_spec`). No statement mentions `updateOntology`, which runs
`updList` on the four kinds in turn.

The premise `hkey` holds for every `key` and `cmp` (`updElem_key`) and is not needed. The premises on
`cmp` are discharged for object types only (at the end; `hrefl` is `C09.cmpObjectType_refl`). C09 has
`hanti`, `hrefl` and `heq` also for concepts and sources; for event types it has `hanti` and `hrefl`
only for well-formed ones (`EtWF`), which the premises here do not allow for, and no `heq`.
-/
import EdxmlProps.C09
namespace EdxmlProps.C11
open Edxml.Ont

variable {α : Type} (key : α → String) (cmp : α → α → Cmp)

def newest : Option α → Option α → Option α
  | none, b => b
  | a, none => a
  | some a, some b => if cmp a b = .lt then some b else some a

@[simp] theorem newest_none (x : Option α) : newest cmp x none = x := by cases x <;> rfl

theorem findBy_append (A B : List α) (k : String) :
    findBy key k (A ++ B) = (findBy key k A).or (findBy key k B) := by
  simp only [findBy_eq_find?, List.find?_append]

theorem findBy_replaceBy (A : List α) {n : String} {r : α} (hr : key r = n) (k : String) :
    findBy key k (replaceBy key n r A) = if k = n then (findBy key n A).map fun _ => r else findBy key k A := by
  fun_induction replaceBy key n r A with
  | case1 => simp [findBy]
  | case2 a rest h => by_cases hk : k = n <;> simp [findBy, hr, eq_of_beq h, hk, eq_comm (a := n)]
  | case3 a rest h ih => by_cases hk : k = n <;> simp_all [findBy]

theorem updElem_ok {a b r : α} :
    updElem cmp a b = .ok r ↔ cmp a b ≠ .incompat ∧ r = if cmp a b = .lt then b else a := by
  unfold updElem; cases cmp a b <;> simp [eq_comm]

theorem updElem_error {a b : α} {e : UpdErr} : updElem cmp a b = .error e ↔ cmp a b = .incompat := by
  unfold updElem; cases cmp a b <;> simp

theorem updElem_key {a b r : α} (h : key a = key b) (hu : updElem cmp a b = .ok r) : key r = key a := by
  rw [((updElem_ok cmp).mp hu).2]; split <;> simp [h]

/-- What `updList key cmp A B` may answer: the element-wise newest definitions when no definition
of `B` conflicts with the one `A` has, an error exactly when one does. -/
def UpdSpec (A B : List α) : Except UpdErr (List α) → Prop
  | .ok R => (∀ k, findBy key k R = newest cmp (findBy key k A) (findBy key k B)) ∧
      ∀ b ∈ B, ∀ a, findBy key (key b) A = some a → cmp a b ≠ .incompat
  | .error _ => ∃ b ∈ B, ∃ a, findBy key (key b) A = some a ∧ cmp a b = .incompat

/-- One round: once `b` is in place as `r` (in `A'`) without conflict, what the remaining rounds
answer for `A'` is an answer for `A` and all of `b :: bs`. -/
theorem UpdSpec.cons {A A' bs : List α} {b r : α} (hnb : key b ∉ bs.map key)
    (hA' : ∀ k, findBy key k A' = if k = key b then some r else findBy key k A)
    (hr : some r = newest cmp (findBy key (key b) A) (some b))
    (hok : ∀ a, findBy key (key b) A = some a → cmp a b ≠ .incompat) {res : Except UpdErr (List α)}
    (h : UpdSpec key cmp A' bs res) : UpdSpec key cmp A (b :: bs) res := by
  have hne : ∀ b' ∈ bs, key b' ≠ key b := fun b' hb' e => hnb (e ▸ List.mem_map_of_mem hb')
  have hnone : findBy key (key b) bs = none := by
    rw [findBy_eq_find?, List.find?_eq_none]
    exact fun x hx e => hne x hx (eq_of_beq e)
  cases res with
  | error e =>
    obtain ⟨b', hb', a, hf, hc⟩ := h
    exact ⟨b', List.mem_cons_of_mem _ hb', a, by rw [← hf, hA', if_neg (hne b' hb')], hc⟩
  | ok R =>
    refine ⟨fun k => ?_, fun b' hb' a hf => ?_⟩
    · rw [h.1 k, hA', findBy]
      by_cases hk : k = key b
      · subst hk; simp [hnone, hr]
      · simp [hk, Ne.symm hk]
    · rcases List.mem_cons.mp hb' with rfl | hb'
      · exact hok a hf
      · exact h.2 b' hb' a (by rw [hA', if_neg (hne b' hb')]; exact hf)

theorem updList_spec (A B : List α) (hn : (B.map key).Nodup) : UpdSpec key cmp A B (updList key cmp A B) := by
  fun_induction updList key cmp A B with
  | case1 A => exact ⟨fun k => by cases findBy key k A <;> rfl, fun _ hb => nomatch hb⟩
  | case2 A b bs hfa ih =>
    rw [List.map_cons, List.nodup_cons] at hn
    refine (ih hn.2).cons key cmp hn.1 (fun k => ?_) (by rw [hfa]; rfl) (by simp [hfa])
    rw [findBy_append, findBy, findBy]
    by_cases hk : k = key b
    · subst hk; simp [hfa]
    · simp [hk, Ne.symm hk]
  | case3 A b bs a hfa r hu ih =>
    rw [List.map_cons, List.nodup_cons] at hn
    have hkr : key r = key b := (updElem_key key cmp (findBy_some hfa).2 hu).trans (findBy_some hfa).2
    obtain ⟨hc, rfl⟩ := (updElem_ok cmp).mp hu
    refine (ih hn.2).cons key cmp hn.1 (fun k => ?_) (by rw [hfa]; exact apply_ite some ..)
      (fun a' hf => by cases hfa.symm.trans hf; exact hc)
    rw [findBy_replaceBy key A hkr, hfa]; rfl
  | case4 A b bs a hfa e hu => exact ⟨b, List.mem_cons_self, a, hfa, (updElem_error cmp).mp hu⟩

/-! ### the property, for one kind of element -/

variable (hkey : ∀ a b, key a = key b → ∀ r, updElem cmp a b = .ok r → key r = key a)

include hkey in
/-- **Element-wise newest**: an element defined on both sides gets the definition of `B` when that
is an accepted upgrade of `A`'s, and keeps `A`'s otherwise; one defined on one side only is taken
over unchanged. -/
theorem update_elementwise_newest (A B R : List α) (hn : (B.map key).Nodup) (h : updList key cmp A B = .ok R)
    (k : String) : findBy key k R = newest cmp (findBy key k A) (findBy key k B) := by
  have _ := hkey -- not needed: `updElem_key`
  exact (show UpdSpec key cmp A B (.ok R) from h ▸ updList_spec key cmp A B hn).1 k

include hkey in
/-- **Contains every element of either ontology.** -/
theorem update_contains_all (A B R : List α) (hn : (B.map key).Nodup) (h : updList key cmp A B = .ok R) (k : String) :
    (findBy key k R).isSome = ((findBy key k A).isSome || (findBy key k B).isSome) := by
  rw [update_elementwise_newest key cmp hkey A B R hn h k]
  cases findBy key k A <;> cases findBy key k B <;> simp [newest]
  split <;> rfl

include hkey in
/-- **Fails iff incompatible.** -/
theorem update_fails_iff_incompatible (A B : List α) (hn : (B.map key).Nodup) :
    (∃ e, updList key cmp A B = .error e) ↔
      ∃ b ∈ B, ∃ a, findBy key (key b) A = some a ∧ cmp a b = .incompat := by
  have _ := hkey -- not needed: `updElem_key`
  have spec := updList_spec key cmp A B hn
  constructor
  · rintro ⟨e, he⟩; rw [he] at spec; exact spec
  · rintro ⟨b, hb, a, hf, hc⟩
    cases hres : updList key cmp A B with
    | error e => exact ⟨e, rfl⟩
    | ok R => rw [hres] at spec; exact absurd hc (spec.2 b hb a hf)

theorem newest_idem (hrefl : ∀ a, cmp a a = .eq) (x y : Option α) :
    newest cmp (newest cmp x y) y = newest cmp x y := by
  match x, y with
  | none, none | some _, none => rfl
  | none, some b => simp [newest, hrefl]
  | some a, some b => by_cases h : cmp a b = .lt <;> simp [newest, h, hrefl]

include hkey in
/-- **Idempotent**: after `A.update(B)`, updating with `B` again changes no definition. -/
theorem update_idempotent (hrefl : ∀ a, cmp a a = .eq) (A B R R' : List α) (hn : (B.map key).Nodup)
    (h : updList key cmp A B = .ok R) (h' : updList key cmp R B = .ok R') (k : String) :
    findBy key k R' = findBy key k R := by
  rw [update_elementwise_newest key cmp hkey R B R' hn h' k, update_elementwise_newest key cmp hkey A B R hn h k]
  exact newest_idem cmp hrefl _ _

include hkey in
/-- **Order of updating does not matter**: `A.update(B)` and `B.update(A)` hold the same definition
of every element. -/
theorem update_commutes (hanti : ∀ a b, cmp b a = (cmp a b).flip)
    (heq : ∀ a b, key a = key b → cmp a b = .eq → a = b)
    (A B R₁ R₂ : List α) (hA : (A.map key).Nodup) (hB : (B.map key).Nodup)
    (h₁ : updList key cmp A B = .ok R₁) (h₂ : updList key cmp B A = .ok R₂) (k : String) :
    findBy key k R₁ = findBy key k R₂ := by
  rw [update_elementwise_newest key cmp hkey A B R₁ hB h₁ k, update_elementwise_newest key cmp hkey B A R₂ hA h₂ k]
  cases ha : findBy key k A with
  | none => cases findBy key k B <;> rfl
  | some a =>
    cases hb : findBy key k B with
    | none => rfl
    | some b =>
      have hk : key a = key b := (findBy_some ha).2.trans (findBy_some hb).2.symm
      have hnot : cmp a b ≠ .incompat :=
        (show UpdSpec key cmp A B (.ok R₁) from h₁ ▸ updList_spec key cmp A B hB).2 b (findBy_some hb).1 a
          ((findBy_some hb).2 ▸ ha)
      have := hanti a b
      simp only [newest]
      cases hc : cmp a b <;> rw [hc] at this <;> simp [Cmp.flip] at this <;> simp [this]
      · exact heq a b hk hc
      · exact absurd hc hnot

include hkey in
/-- **Versions never decrease.** -/
theorem update_versions_monotone (ver : α → Nat) (hlt : ∀ a b, cmp a b = .lt → ver a < ver b)
    (A B R : List α) (hn : (B.map key).Nodup) (h : updList key cmp A B = .ok R) (k : String) (a : α)
    (ha : findBy key k A = some a) : ∃ r, findBy key k R = some r ∧ ver a ≤ ver r := by
  rw [update_elementwise_newest key cmp hkey A B R hn h k, ha]
  cases findBy key k B with
  | none => exact ⟨a, rfl, Nat.le_refl _⟩
  | some b =>
    simp only [newest]
    by_cases hc : cmp a b = .lt
    · exact ⟨b, by simp [hc], Nat.le_of_lt (hlt a b hc)⟩
    · exact ⟨a, by simp [hc], Nat.le_refl _⟩

/-! ### the premises hold for object types -/

theorem updElem_key_objectType (a b : ObjectTypeDef) (h : a.name = b.name) (r : ObjectTypeDef)
    (hu : updElem cmpObjectType a b = .ok r) : r.name = a.name :=
  updElem_key (·.name) cmpObjectType h hu

theorem objectType_lt_version (a b : ObjectTypeDef) (h : cmpObjectType a b = .lt) : a.version < b.version :=
  (C09.cmpObjectType_lt_iff.mp h).1

/-- e.g. updating in either order gives the same object type definitions -/
example (A B R₁ R₂ : List ObjectTypeDef) (hA : (A.map (·.name)).Nodup) (hB : (B.map (·.name)).Nodup)
    (h₁ : updList (·.name) cmpObjectType A B = .ok R₁) (h₂ : updList (·.name) cmpObjectType B A = .ok R₂) (k : String) :
    findBy (·.name) k R₁ = findBy (·.name) k R₂ :=
  update_commutes (·.name) cmpObjectType updElem_key_objectType C09.cmpObjectType_antisymm
    C09.objectType_eq_same A B R₁ R₂ hA hB h₁ h₂ k

example : (match updList (·.name) cmpObjectType [C09.exA] [C09.exB] with | .ok r => decide (r = [C09.exB]) | _ => false) = true := by
  decide +kernel

end EdxmlProps.C11
