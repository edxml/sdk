/-
C01 — Sticky hash is exactly the specified function of logical event identity.

`Edxml.hashInput` *is* the specified byte layout (source ⏎ type ⏎ sorted set of "p:v" joined by
0xFFFFFFFF, hashed properties only); the correspondence check ties `compute_sticky_hash` to it
digest by digest. The theorems are what the property derives from that layout.
-/
import EdxmlModel
import EdxmlProps.Lemmas.ListSet
import EdxmlProps.Lemmas.HashInput
namespace EdxmlProps.C01
open Edxml

theorem mem_objStrings {hashed : List String} {e : Event} {b : Bytes} :
    b ∈ objStrings hashed e ↔
      ∃ p v, ((p, v) ∈ e.pairs ∧ hashed.contains p = true) ∧ objString p v = b := by
  simp only [objStrings, List.mem_map, List.mem_filter, Prod.exists]

/-- The hash input depends only on source, type and the *set* of (hashed property, object) pairs. -/
theorem hashInput_congr (hashed : List String) (e₁ e₂ : Event)
    (hs : e₁.source = e₂.source) (ht : e₁.type = e₂.type)
    (hp : ∀ p v, hashed.contains p = true → ((p, v) ∈ e₁.pairs ↔ (p, v) ∈ e₂.pairs)) :
    hashInput hashed e₁ = hashInput hashed e₂ := by
  unfold hashInput
  rw [hs, ht, (canon_eq_iff bytesLt_strictTotal _ (objStrings hashed e₂)).mpr fun b => ?_]
  simp only [mem_objStrings]
  exact exists_congr fun p => exists_congr fun v =>
    and_congr_left' (and_congr_left fun hh => hp p v hh)

/-- Unchanged by any reordering of properties and objects, and by repeating objects. -/
theorem hashInput_perm (hashed : List String) (e₁ e₂ : Event)
    (hs : e₁.source = e₂.source) (ht : e₁.type = e₂.type)
    (hp : ∀ pv, pv ∈ e₁.pairs ↔ pv ∈ e₂.pairs) :
    hashInput hashed e₁ = hashInput hashed e₂ :=
  hashInput_congr hashed e₁ e₂ hs ht fun p v _ => hp (p, v)

theorem hashInput_ignores_unhashed (hashed : List String) (e : Event)
    (extra : List (String × List String)) (hx : ∀ pv ∈ extra, hashed.contains pv.1 = false) :
    hashInput hashed { e with props := e.props ++ extra } = hashInput hashed e := by
  refine hashInput_congr hashed _ e rfl rfl fun p v hh => ?_
  simp only [Event.pairs, List.flatMap_append, List.mem_append, or_iff_left_iff_imp,
    List.mem_flatMap, List.mem_map]
  rintro ⟨pv, hpv, w, _, hw⟩
  cases hw
  rw [hx pv hpv] at hh; cases hh

theorem hashInput_ignores_rest (hashed : List String) (e : Event)
    (atts : List (String × List (String × String))) (parents : List String)
    (foreign : List (String × String)) :
    hashInput hashed { e with atts := atts, parents := parents, foreign := foreign }
      = hashInput hashed e := rfl

theorem objStrings_sorted_nodup (hashed : List String) (e : Event) :
    SSorted bytesLt (canon bytesLt (objStrings hashed e)) ∧
    (canon bytesLt (objStrings hashed e)).Nodup :=
  ⟨sorted_canon bytesLt_strictTotal _,
   nodup_of_sorted bytesLt_strictTotal _ (sorted_canon bytesLt_strictTotal _)⟩

/-- `Edxml.utf8_injective`, under the name by which the C01 check looks it up. -/
theorem utf8_injective (s t : String) (h : utf8 s = utf8 t) : s = t := Edxml.utf8_injective s t h

/-- What the ontology validator guarantees about names. -/
structure WF (hashed : List String) (e : Event) : Prop where
  source : '\n' ∉ e.source.toList
  type : '\n' ∉ e.type.toList
  names : ∀ p ∈ hashed, ':' ∉ p.toList

theorem objString_mem_objStrings {hashed : List String} (hn : ∀ p ∈ hashed, ':' ∉ p.toList)
    (e : Event) {p v : String} (hh : hashed.contains p = true) :
    objString p v ∈ objStrings hashed e ↔ (p, v) ∈ e.pairs := by
  rw [mem_objStrings]
  constructor
  · rintro ⟨p', v', ⟨hm, hh'⟩, he⟩
    obtain ⟨rfl, rfl⟩ := objString_inj (hn p' (List.contains_iff_mem.mp hh')) (hn p (List.contains_iff_mem.mp hh)) he
    exact hm
  · exact fun hm => ⟨p, v, ⟨hm, hh⟩, rfl⟩

/-- The layout is unambiguous. Contrapositive: the input changes whenever source, type or a hashed
object set changes. -/
theorem hashInput_injective (hashed : List String) (e₁ e₂ : Event)
    (w₁ : WF hashed e₁) (w₂ : WF hashed e₂)
    (h : hashInput hashed e₁ = hashInput hashed e₂) :
    e₁.source = e₂.source ∧ e₁.type = e₂.type ∧
    ∀ p v, hashed.contains p = true → ((p, v) ∈ e₁.pairs ↔ (p, v) ∈ e₂.pairs) := by
  unfold hashInput at h
  simp only [List.append_assoc, List.cons_append, List.nil_append] at h
  have nl {s : String} (hs : '\n' ∉ s.toList) : (0x0A : UInt8) ∉ utf8 s :=
    ascii_not_mem_utf8 (c := '\n') (by decide) hs
  obtain ⟨hsrc, h⟩ := split_first_cons (nl w₁.source) (nl w₂.source) h
  obtain ⟨htyp, h⟩ := split_first_cons (nl w₁.type) (nl w₂.type) h
  have items (e : Event) : ∀ x ∈ canon bytesLt (objStrings hashed e), x ≠ [] ∧ (0xFF : UInt8) ∉ x := by
    intro x hx
    obtain ⟨p, v, _, rfl⟩ := mem_objStrings.mp ((mem_canon bytesLt_strictTotal _ _).mp hx)
    exact ⟨objString_ne_nil p v, objString_no_ff p v⟩
  have hmem := (canon_eq_iff bytesLt_strictTotal _ _).mp
    (joinSep_inj (items e₁) (items e₂) h)
  refine ⟨Edxml.utf8_injective _ _ hsrc, Edxml.utf8_injective _ _ htyp, fun p v hh => ?_⟩
  rw [← objString_mem_objStrings w₁.names e₁ hh, ← objString_mem_objStrings w₁.names e₂ hh]
  exact hmem _

def MemoInv (s : HashedMemo) : Prop := s.cache = none ∨ s.cache = some (hashedOf s.props)

theorem memo_step_inv (s : HashedMemo) (op : MemoOp) (h : MemoInv s) : MemoInv (s.step op).1 := by
  -- the state comes back as it was, with the memo just computed, or with the memo dropped
  fun_cases HashedMemo.step s op with
  | case1 | case3 | case5 | case8 => exact h
  | case2 => exact .inr rfl
  | case4 | case6 | case7 => exact .inl rfl

theorem memo_get (s : HashedMemo) (h : MemoInv s) :
    (s.step .getHashed).2 = hashedOf s.props := by
  unfold HashedMemo.step
  rcases h with h | h <;> rw [h]

def runMemo (s : HashedMemo) (ops : List MemoOp) : HashedMemo := ops.foldl (fun s op => (s.step op).1) s

/-- After any history of strategy changes, additions, removals and look-ups, the memoised hashed
properties are those whose strategy is `match` at that moment. -/
theorem hashed_memo_sound (props : List (String × String)) (ops : List MemoOp) :
    let s := runMemo { props := props, cache := none } ops
    (s.step .getHashed).2 = hashedOf s.props :=
  memo_get _ (List.foldlRecOn ops _ (.inl rfl) fun s h op _ => memo_step_inv s op h)

/-! ### Non-vacuity -/

def exE : Event := { type := "t", source := "/a/", props := [("a", ["x", "y"]), ("b", ["z"])] }

example : WF ["a"] exE := ⟨by decide +kernel, by decide +kernel, by decide +kernel⟩
example : hashInput ["a"] exE =
    utf8 "/a/" ++ [0x0A] ++ utf8 "t" ++ [0x0A] ++ utf8 "a:x" ++ [0xFF, 0xFF, 0xFF, 0xFF] ++ utf8 "a:y" := by
  decide +kernel
example : hashInput ["a"] { exE with props := [("b", ["q"]), ("a", ["y", "x", "y"])] }
    = hashInput ["a"] exE := by decide +kernel

end EdxmlProps.C01
