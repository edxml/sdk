/-
C16. A validated template always evaluates.

Model: `EdxmlModel/Template/Template.lean` (validation and evaluation over tokens) and `Scan.lean`
there (from the template string to the tokens). For a valid event (`EnvOk`) no error branch of
`evaluate` (bad boolean, bad date, argument list of the wrong shape, unbalanced brackets) is
reachable. That evaluating never changes the event holds in the model by the type of `evaluate`: it
is handed the rendered objects (`Env`) and returns a string; for the SDK it is compared, not proved.
-/
import EdxmlProps.Lemmas.Scan
import EdxmlProps.Lemmas.FilterMap
namespace EdxmlProps.C16
open Edxml.Tpl

/-- what a valid event guarantees about the objects the formatters look at -/
structure EnvOk (et : EType) (env : Env) : Prop where
  booleans : ∀ p, et.dataType p = some "boolean" → ∀ v ∈ env.raw p, v = "true" ∨ v = "false"
  dates : ∀ p acc, et.dataType p = some "datetime" → acc ∈ accuracies → ∀ v ∈ env.raw p, (env.renderDate acc v).isSome
  spans : ∀ a b x y, et.dataType a = some "datetime" → et.dataType b = some "datetime" → x ∈ env.raw a → y ∈ env.raw b →
    (env.renderSpan x y).isSome ∧ (env.renderDuration x y).isSome

/-- "this placeholder makes the evaluation fail", as a `Bool` so that its absence is an equation -/
def isErr : PhOut → Bool
  | .error _ => true
  | _ => false

theorem minStr_mem : ∀ {l : List String} {x : String}, minStr l = some x → x ∈ l
  | a :: as, _, rfl => List.foldlRecOn as _ List.mem_cons_self fun m hm y hy => by
    split
    · exact List.mem_cons_of_mem _ hy
    · exact hm

theorem mapM'_ok (f : String → Option String) (e : Err) (l : List String) (h : ∀ v ∈ l, (f v).isSome) :
    isErr (mapM' f e l) = false := by
  rw [mapM', Edxml.mapM_eq_some.mpr ⟨h, rfl⟩]; rfl

/-- what evaluation relies on when a placeholder has passed validation -/
theorem validPh_spec {et : EType} {f : Option String} {args : List String} (h : validPh et f args = true) :
    (∀ n, f = some n → n ∈ knownFormatters) ∧
    ∃ pargs oargs, splitArgs f args = some (pargs, oargs) ∧
      (∀ n, propertyCount f = some n → n ≤ args.length ∧ pargs = args.take n ∧ oargs = args.drop n) ∧
      (propertyCount f = none → args ≠ []) ∧
      (∀ n, argumentCount f = some n → args.length = n) ∧
      (f = some "time_span" ∨ f = some "duration" ∨ f = some "date_time" →
        ∀ p ∈ pargs, et.dataType p = some "datetime") ∧
      (f = some "boolean_string_choice" ∨ f = some "boolean_on_off" ∨ f = some "boolean_is_is_not" →
        ∀ p ∈ pargs, et.dataType p = some "boolean") ∧
      (f = some "date_time" → ∀ a, oargs.head? = some a → a ∈ accuracies) := by
  unfold validPh at h
  cases hs : splitArgs f args with
  | none => simp [hs] at h
  | some pa =>
    simp only [hs, Bool.and_eq_true, Bool.or_eq_true, beq_iff_eq, or_assoc] at h
    obtain ⟨hk, ⟨⟨⟨⟨-, hc⟩, hdt⟩, hb⟩, hacc⟩, -⟩ := h
    refine ⟨fun n hn => by subst hn; simpa using hk, pa.1, pa.2, rfl, fun n hn => ?_, fun hn hnil => ?_,
      fun n hn => ?_, fun hf => ?_, fun hf => ?_, fun hf a ha => ?_⟩
    · simp only [splitArgs, hn] at hs
      split at hs
      · cases hs
      · cases hs; exact ⟨Nat.le_of_not_lt ‹_›, rfl, rfl⟩
    · simp [splitArgs, hn, hnil] at hs
    · rw [hn] at hc; simpa using hc
    · rw [if_pos hf] at hdt; simpa using hdt
    · rw [if_pos hf] at hb; simpa using hb
    · rw [if_pos hf] at hacc
      cases hp : pa.2 <;> simp_all

/-- the rows of `propertyCount` and `argumentCount`: a case split over them names the formatter and
gives both counts without comparing a string literal again -/
theorem formatter_counts : ∀ n ∈ knownFormatters, (n, propertyCount (some n), argumentCount (some n)) ∈
    [("time_span", some 2, some 2), ("date_time", some 1, some 2), ("duration", some 2, some 2), ("merge", none, none),
     ("attachment", some 0, some 1), ("boolean_string_choice", some 1, some 3), ("boolean_on_off", some 1, some 1),
     ("boolean_is_is_not", some 1, some 1), ("empty", some 1, some 2), ("unless_empty", none, none),
     ("url", some 1, some 2)] := by decide +kernel

theorem span_ok (render : String → String → Option String) (la lb : List String)
    (h : ∀ x ∈ la, ∀ y ∈ lb, (render x y).isSome) :
    isErr (match minStr la, minStr lb with
      | some x, some y => (match render x y with | some s => .strings [s] | none => .error .badDate)
      | _, _ => .collapse) = false := by
  cases h1 : minStr la with
  | none => rfl
  | some x =>
    cases h2 : minStr lb with
    | none => rfl
    | some y =>
      obtain ⟨s, hs⟩ := Option.isSome_iff_exists.mp (h x (minStr_mem h1) y (minStr_mem h2))
      simp only [hs]; rfl

theorem boolean_ok {et : EType} {env : Env} (ok : EnvOk et env) {p : String} (hp : et.dataType p = some "boolean")
    (t fl : String) :
    isErr (mapM' (fun v => if v == "true" then some t else if v == "false" then some fl else none) .badBoolean
      (env.raw p)) = false :=
  mapM'_ok _ _ _ fun v hv => by rcases ok.booleans p hp v hv with rfl | rfl <;> rfl

/-- C16: a placeholder that passed validation cannot make the evaluation fail -/
theorem phOut_ok (et : EType) (env : Env) (ok : EnvOk et env) (f : Option String) (args : List String)
    (h : validPh et f args = true) : isErr (phOut env f args) = false := by
  obtain ⟨hk, pargs, oargs, -, hp, hnil, hc, hdt, hb, hacc⟩ := validPh_spec h
  clear h
  cases f with
  | none =>
    cases args with
    | nil => cases (hp 1 rfl).1
    | cons => rfl
  | some name =>
    have row := formatter_counts name (hk name rfl)
    simp only [List.mem_cons, Prod.mk.injEq, List.mem_nil_iff, or_false] at row
    clear hk
    -- `rcases args … <;> cases hc n hac` leaves the one shape of `args` that has the counted length (a
    -- `match` would define an auxiliary matcher per case); `apply` makes Lean evaluate `phOut` on the
    -- formatter name once: comparing it with the literals of all earlier cases is what costs here.
    rcases row with ⟨rfl, hpc, hac⟩ | ⟨rfl, hpc, hac⟩ | ⟨rfl, hpc, hac⟩ | ⟨rfl, hpc, hac⟩ | ⟨rfl, hpc, hac⟩ |
      ⟨rfl, hpc, hac⟩ | ⟨rfl, hpc, hac⟩ | ⟨rfl, hpc, hac⟩ | ⟨rfl, hpc, hac⟩ | ⟨rfl, hpc, hac⟩ | ⟨rfl, hpc, hac⟩
    · -- time_span
      obtain ⟨-, rfl, -⟩ := hp 2 hpc
      rcases args with _ | ⟨a, _ | ⟨b, _ | _⟩⟩ <;> cases hc 2 hac
      apply span_ok
      exact fun x hx y hy =>
        (ok.spans a b x y (hdt (.inl rfl) a (by simp)) (hdt (.inl rfl) b (by simp)) hx hy).1
    · -- date_time
      obtain ⟨-, rfl, rfl⟩ := hp 1 hpc
      rcases args with _ | ⟨p, _ | ⟨acc, _ | _⟩⟩ <;> cases hc 2 hac
      apply mapM'_ok
      exact ok.dates p acc (hdt (.inr (.inr rfl)) p (by simp)) (hacc rfl acc rfl)
    · -- duration
      obtain ⟨-, rfl, -⟩ := hp 2 hpc
      rcases args with _ | ⟨a, _ | ⟨b, _ | _⟩⟩ <;> cases hc 2 hac
      apply span_ok
      exact fun x hx y hy =>
        (ok.spans a b x y (hdt (.inr (.inl rfl)) a (by simp)) (hdt (.inr (.inl rfl)) b (by simp)) hx hy).2
    · -- merge
      rfl
    · -- attachment
      rcases args with _ | ⟨a, _ | _⟩ <;> cases hc 1 hac
      rfl
    · -- boolean_string_choice
      obtain ⟨-, rfl, -⟩ := hp 1 hpc
      rcases args with _ | ⟨p, _ | ⟨t, _ | ⟨fl, _ | _⟩⟩⟩ <;> cases hc 3 hac
      apply boolean_ok ok (hb (.inl rfl) p (by simp))
    · -- boolean_on_off
      obtain ⟨-, rfl, -⟩ := hp 1 hpc
      rcases args with _ | ⟨p, _ | _⟩ <;> cases hc 1 hac
      apply boolean_ok ok (hb (.inr (.inl rfl)) p (by simp))
    · -- boolean_is_is_not
      obtain ⟨-, rfl, -⟩ := hp 1 hpc
      rcases args with _ | ⟨p, _ | _⟩ <;> cases hc 1 hac
      apply boolean_ok ok (hb (.inr (.inr rfl)) p (by simp))
    · -- empty
      rcases args with _ | ⟨p, _ | ⟨t, _ | _⟩⟩ <;> cases hc 2 hac
      rfl
    · -- unless_empty
      cases args with
      | nil => exact absurd rfl (hnil hpc)
      | cons => rfl
    · -- url
      rcases args with _ | ⟨p, _ | ⟨n, _ | _⟩⟩ <;> cases hc 2 hac
      rfl

theorem replacements_ok (et : EType) (env : Env) (ok : EnvOk et env) (segs : List Seg)
    (h : segs.all (validSeg et) = true) : ∃ r, replacements env segs = .ok r := by
  fun_induction replacements env segs with
  -- case3, case7: after a text, after a placeholder with a value, the rest yields no list and is passed on
  | case3 s r hr ih | case7 f args r l hph hr ih => exact ih (Bool.and_eq_true_iff.mp h).2
  -- case4: `phOut` reports an error
  | case4 f args r e hph =>
    have hp := phOut_ok et env ok f args (Bool.and_eq_true_iff.mp h).1
    rw [hph] at hp; cases hp
  | _ => exact ⟨_, rfl⟩

theorem evalStr_ok (et : EType) (env : Env) (ok : EnvOk et env) (segs : List Seg)
    (h : segs.all (validSeg et) = true) : ∃ s, evalStr env segs = .ok s := by
  obtain ⟨r, hr⟩ := replacements_ok et env ok segs h
  unfold evalStr
  rw [hr]
  cases r with
  | none => exact ⟨_, rfl⟩
  | some parts =>
    simp only
    split <;> exact ⟨_, rfl⟩

theorem step_run_ok (et : EType) (env : Env) (ok : EnvOk et env) {segs : List Seg}
    (hv : segs.all (validSeg et) = true) (top : Frame) (rest : List Frame) :
    ∃ top', step env (top :: rest) (.run segs) = .ok (top' :: rest) := by
  obtain ⟨s, hs⟩ := evalStr_ok et env ok segs hv
  simp only [step, hs]
  split
  · exact ⟨_, rfl⟩
  · split
    · contradiction
    · exact ⟨_, rfl⟩
    · exact ⟨_, rfl⟩

/-- C16: the scope machine `runToks` never gets stuck on a validated template: started with one frame
more than there are open scopes, it ends with exactly one -/
theorem evalNodes_total_on_valid (et : EType) (env : Env) (ok : EnvOk et env) : ∀ (toks : List Tok) (top : Frame)
    (rest : List Frame), balanced rest.length toks = true → toks.all (tokValid et) = true →
    ∃ top', runToks env (top :: rest) toks = .ok [top']
  -- the cases not listed (frames left at the end, `}` with no enclosing frame) are refuted by `hb`, which
  -- computes to an equation between different constructors
  | [], top, [], _, _ => ⟨top, rfl⟩
  | .run segs :: r, top, rest, hb, hv => by
    simp only [List.all_cons, Bool.and_eq_true, tokValid] at hv
    obtain ⟨top', h1⟩ := step_run_ok et env ok hv.1 top rest
    simp only [runToks, h1]
    exact evalNodes_total_on_valid et env ok r top' rest hb hv.2
  | .openScope :: r, top, rest, hb, hv =>
    evalNodes_total_on_valid et env ok r _ (top :: rest) hb (Bool.and_eq_true_iff.mp hv).2
  | .closeScope :: r, top, parent :: rest, hb, hv =>
    evalNodes_total_on_valid et env ok r _ rest hb (Bool.and_eq_true_iff.mp hv).2

/-- C16: a template that passes validation for an event type evaluates to a string for every valid
event of that type -/
theorem validated_evaluates (et : EType) (env : Env) (ok : EnvOk et env) (toks : List Tok)
    (h : validate et toks = true) : ∃ s, evaluate env toks = .ok s := by
  unfold validate at h
  simp only [Bool.and_eq_true] at h
  obtain ⟨top, ht⟩ := evalNodes_total_on_valid et env ok toks {} [] h.1 h.2
  unfold evaluate
  rw [ht]
  exact ⟨_, rfl⟩

/-- a placeholder that passes validation has a known formatter (or none) and an argument list that
`_get_placeholder_arguments` (`splitArgs`) accepts -/
theorem validate_sound (et : EType) (f : Option String) (args : List String) (h : validPh et f args = true) :
    (match f with | some n => n ∈ knownFormatters | none => True) ∧ (splitArgs f args).isSome := by
  obtain ⟨hk, _, _, hs, -⟩ := validPh_spec h
  constructor
  · cases f with
    | none => trivial
    | some n => exact hk n rfl
  · rw [hs]; rfl

/-! ### from the template string -/

/-- C16: searching the whole template for placeholders that contain no curly bracket
(`Template.validate`) finds exactly the placeholders that evaluation finds in the strings between
the curly brackets -/
theorem placeholders_found_alike (cs : List Char) :
    findAll stopValidate cs = (runsOf cs).flatMap (findAll stopEval) := by
  rw [runsOf_eq]; exact findAll_runs cs [] (List.forall_mem_nil _)

/-- C16: validation judges exactly the placeholders that evaluation will replace -/
theorem validation_judges_what_is_evaluated (et : EType) (s : String) :
    validateStr et s = validate et (tokenize s) := by
  unfold validateStr validate
  rw [all_runs, tokenize_runs, placeholders_found_alike]
  congr 1
  · exact (balanced_tokenizeAux s.toList [] 0).symm
  · simp only [List.all_map, List.all_flatMap]
    congr 1
    funext r
    simp only [Function.comp]
    rw [all_filter_isPh, scan_placeholders, List.all_map]
    rfl

/-- C16, the same for template strings -/
theorem validated_string_evaluates (et : EType) (env : Env) (ok : EnvOk et env) (s : String)
    (h : validateStr et s = true) : ∃ r, evaluateStr env s = .ok r :=
  validated_evaluates et env ok (tokenize s) (validation_judges_what_is_evaluated et s ▸ h)

/-- C16: scanning loses nothing: the texts and placeholders of a string, written out in order, are
the string -/
theorem scan_loses_nothing (cs : List Char) : (scan cs).flatMap (fun s => (segText s).toList) = cs :=
  scanF_lossless _ _ (Nat.le_refl _)

/-- every placeholder that passes validation has an argument, so the validator's reading of the
arguments (`['']` counts as none) and the evaluator's (`split(',')`) coincide on it -/
theorem valid_placeholder_has_arguments (et : EType) (f : Option String) (h : validPh et f [] = true) : False := by
  obtain ⟨hk, _, _, -, hp, hnil, hc, -⟩ := validPh_spec h
  cases f with
  | none => cases (hp 1 rfl).1
  | some name =>
    cases hpc : propertyCount (some name) with
    | none => exact hnil hpc rfl
    | some k =>
      obtain rfl := Nat.le_zero.mp (hp k hpc).1
      -- with no arguments only a formatter that takes no property gets past `splitArgs`
      obtain ⟨-, hac⟩ : name = "attachment" ∧ argumentCount (some name) = some 1 := by
        simpa [hpc] using formatter_counts name (hk name rfl)
      cases hc 1 hac

theorem arguments_read_alike (a : List Char) (h : argsOf a ≠ []) : argsOf a = rawArgs a := by
  unfold argsOf at h ⊢
  split
  · rename_i he; simp [he] at h
  · rfl

/-! ### which scopes are omitted -/

/-- a placeholder without formatter, and `merge`, stand for every object of their properties -/
theorem renders_every_object (env : Env) (p : String) (rest ps : List String) :
    phOut env none (p :: rest) = .strings (env.shown p) ∧
    phOut env (some "merge") ps = .strings (ps.flatMap env.raw) := ⟨rfl, rfl⟩

theorem join_nil_of_all_empty : ∀ (l : List String), (∀ x ∈ l, x = "") → String.join l = ""
  | [], _ => rfl
  | x :: xs, h => by
    rw [String.join_cons, h x List.mem_cons_self,
      join_nil_of_all_empty xs fun y hy => h y (List.mem_cons_of_mem _ hy)]
    rfl

/-- a placeholder has no value (and empties its string, hence its scope) exactly when it stands for
no string or for empty strings only -/
theorem collapse_iff (l : List String) : joinObjects l = "" ↔ String.join l = "" := by
  match l with
  | [] => simp [joinObjects, String.join]
  | [x] => simp [joinObjects, String.join]
  | a :: b :: r =>
    simp only [joinObjects]
    split
    · rename_i hj; simpa using hj
    · -- several objects, not all empty: what is written contains " and "
      rename_i hj
      refine iff_of_false (fun h => ?_) (by simpa using hj)
      rw [String.append_eq_empty_iff, String.append_eq_empty_iff] at h
      exact absurd h.1.2 (by decide)

/-- closing an emptied scope contributes nothing: the enclosing scope goes on as it was -/
theorem scope_collapse_is_local (env : Env) (top parent : Frame) (rest : List Frame) (h : top.dead = true) :
    step env (top :: parent :: rest) .closeScope = .ok (parent :: rest) := by
  simp only [step, h, if_true, String.append_empty]
  split <;> rfl

/-- and a scope that is not emptied contributes exactly what it produced -/
theorem scope_contributes (env : Env) (top parent : Frame) (rest : List Frame) (h : top.dead = false)
    (hp : parent.dead = false) :
    step env (top :: parent :: rest) .closeScope = .ok ({ parent with acc := parent.acc ++ top.acc } :: rest) := by
  simp [step, h, hp]

/-! ### Non-vacuity -/

def exType : EType := { props := [("s", "string:0:mc:u"), ("b", "boolean"), ("d1", "datetime")], attachments := ["a"] }
def exEnv : Env :=
  { shown := fun p => if p == "s" then ["alpha"] else [], raw := fun p => if p == "s" then ["alpha"] else [],
    atts := fun _ => [], renderDate := fun _ _ => some "d", renderSpan := fun _ _ => some "s", renderDuration := fun _ _ => some "u" }

example : validate exType [.run [.text "Seen ", .ph none ["s"]], .openScope, .run [.text " at ", .ph (some "date_time") ["d1", "year"]],
    .closeScope, .run [.text "."]] = true := by decide +kernel
example : (match evaluate exEnv [.run [.text "Seen ", .ph none ["s"]], .openScope, .run [.text " at ", .ph (some "date_time") ["d1", "year"]],
    .closeScope, .run [.text "."]] with | .ok s => s == "Seen alpha." | _ => false) = true := by decide +kernel
example : validate exType [.run [.ph (some "url") ["s"]]] = false := by decide +kernel
example : validateStr exType "Seen [[s]]{ at [[date_time:d1,year]]}." = true := by decide +kernel
example : tokenize "a[[[s]]]{x}" = [.run [.text "a", .ph none ["[s"], .text "]"], .openScope, .run [.text "x"], .closeScope, .run []] := by
  decide +kernel
example : validateStr exType "[[empty:s,x{[[boolean_on_off:s]]}" = false := by decide +kernel

end EdxmlProps.C16
