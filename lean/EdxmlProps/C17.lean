/-
C17. Transcoder mediators always emit one valid, complete EDXML stream.

The mediator machine (model: `Stream/Mediator.lean`) only talks to the writer machine; its output
is therefore the output of a writer session, to which the theorems of C02 apply.

Second half (`section lookup`; model: `Transcode/Lookup.lean`): where the property values of a generated
event come from.
-/
import EdxmlModel.Stream.Mediator
import EdxmlModel.Transcode.Lookup
import EdxmlProps.C02
import EdxmlProps.Lemmas.ListSet
import EdxmlProps.Lemmas.Keyed
namespace EdxmlProps.C17
open Edxml EdxmlProps.C02

/-- the writer of the mediator is in the state that the calls issued so far lead to -/
def Coherent (s : MState) : Prop := s.w = wrun true {} s.issued

theorem call_coherent (s : MState) (op : WOp) (h : Coherent s) : Coherent (s.call op).1 := by
  unfold Coherent MState.call at *
  simp only [wrun, List.foldl_append, List.foldl_cons, List.foldl_nil]
  rw [← wrun, ← h]

theorem mclose_coherent (s : MState) (h : Coherent s) : Coherent (mclose s) := by
  unfold mclose
  split
  · exact h
  · exact call_coherent s _ h

/-- `_write_event`: the ontology is brought up to date as `close()` would, then the event is handed to
the writer; only what is reported of the writer's verdict depends on the setting -/
theorem writeEvent_fst (ig : Bool) (s : MState) (e : GenEvent) :
    (writeEvent ig s e).1 = ((mclose s).call (.addEvent e.idx e.type (mclose s).curSource e.gateOk)).1 := by
  unfold writeEvent mclose
  dsimp only
  split
  · rfl
  · split <;> rfl

theorem writeEvents_coherent (ig : Bool) (es : List GenEvent) (s : MState) (h : Coherent s) :
    Coherent (writeEvents ig s es).1 := by
  have h1 {s e r} (h : Coherent s) (hw : writeEvent ig s e = r) : Coherent r.1 := by
    rw [← hw, writeEvent_fst]; exact call_coherent _ _ (mclose_coherent s h)
  fun_induction writeEvents ig s es with
  | case1 => exact h
  | case2 s e es s' hw ih => exact ih (h1 h hw)
  | case3 s e es s' err hw => exact h1 h hw

theorem mstep_coherent (ig : Bool) (s : MState) (op : MOp) (h : Coherent s) : Coherent (mstep ig s op).1 := by
  cases op with
  | addSource u => exact h
  | setSource u => exact h
  | record evs => exact writeEvents_coherent ig evs s h

theorem mrunF_coherent (ops : List (Bool × MOp)) (s : MState) (h : Coherent s) : Coherent (mrunF s ops) :=
  List.foldlRecOn ops _ h fun s hs op _ => mstep_coherent op.1 s op.2 hs

theorem mrun_eq_mrunF (ig : Bool) (s : MState) (ops : List MOp) :
    mrun ig s ops = mrunF s (ops.map fun op => (ig, op)) := by
  unfold mrun mrunF
  rw [List.foldl_map]

def typesOf (items : List Item) : List String :=
  items.flatMap fun it => match it with | .ont _ ts _ => ts | _ => []
def sourcesOf (items : List Item) : List String :=
  items.flatMap fun it => match it with | .ont _ _ ss => ss | _ => []

/-- what the writer knows is what it has written -/
structure Knows (w : WState) : Prop where
  types : ∀ t, t ∈ w.types ↔ t ∈ typesOf w.out
  sources : ∀ s, s ∈ w.sources ↔ s ∈ sourcesOf w.out

/-- every event among the children comes after ontology elements defining its type and source -/
def Preceded (items : List Item) : Prop :=
  ∀ pre i t s g post, items = pre ++ Item.event i t s g :: post → t ∈ typesOf pre ∧ s ∈ sourcesOf pre

theorem typesOf_append (a b : List Item) : typesOf (a ++ b) = typesOf a ++ typesOf b := List.flatMap_append
theorem sourcesOf_append (a b : List Item) : sourcesOf (a ++ b) = sourcesOf a ++ sourcesOf b := List.flatMap_append

theorem preceded_snoc {items : List Item} {it : Item} (h : Preceded items)
    (hit : ∀ i t s g, it = Item.event i t s g → t ∈ typesOf items ∧ s ∈ sourcesOf items) :
    Preceded (items ++ [it]) := by
  intro pre i t s g post heq
  rcases List.eq_nil_or_concat post with rfl | ⟨post', x, rfl⟩
  · obtain ⟨rfl, hx⟩ := List.append_inj' heq rfl
    exact hit i t s g (List.singleton_inj.mp hx)
  · rw [List.concat_eq_append, ← List.cons_append, ← List.append_assoc] at heq
    exact h pre i t s g post' (List.append_inj' heq rfl).1

theorem knows_snoc {w : WState} (hk : Knows w) (x : Item) (ht : typesOf [x] = []) (hs : sourcesOf [x] = []) :
    Knows { w with out := w.out ++ [x] } :=
  ⟨fun t => by rw [typesOf_append, ht, List.append_nil]; exact hk.types t,
   fun s => by rw [sourcesOf_append, hs, List.append_nil]; exact hk.sources s⟩

theorem wstep_invariants (v : Bool) (w : WState) (op : WOp) (hk : Knows w) (hp : Preceded w.out) :
    Knows (wstep v w op).1 ∧ Preceded (wstep v w op).1.out := by
  refine wstep_cases v w op (P := fun r => Knows r.1 ∧ Preceded r.1.out) (fun _ => ⟨hk, hp⟩) ?_ ?_ ?_
  · intro ts ss
    refine ⟨⟨fun t => ?_, fun s => ?_⟩, preceded_snoc hp fun _ _ _ _ he => nomatch he⟩
    · rw [typesOf_append, show typesOf [Item.ont .ok ts ss] = ts from List.append_nil ts, mem_canonS,
        List.mem_append, List.mem_append, hk.types t]
    · rw [sourcesOf_append, show sourcesOf [Item.ont .ok ts ss] = ss from List.append_nil ss, mem_canonS,
        List.mem_append, List.mem_append, hk.sources s]
  · intro i t src g hw
    obtain ⟨_, _, ho, h1, h2, -⟩ := verdict_event_eq_none.mp hw
    cases ho
    refine ⟨knows_snoc hk _ rfl rfl, preceded_snoc hp fun _ _ _ _ he => ?_⟩
    cases he
    exact ⟨(hk.types t).mp (List.contains_iff_mem.mp h2), (hk.sources src).mp (List.contains_iff_mem.mp h1)⟩
  · intro i
    exact ⟨knows_snoc hk _ rfl rfl, preceded_snoc hp fun _ _ _ _ he => nomatch he⟩

theorem wrun_invariants (v : Bool) (ops : List WOp) : Knows (wrun v {} ops) ∧ Preceded (wrun v {} ops).out :=
  List.foldlRecOn (motive := fun w => Knows w ∧ Preceded w.out) ops _
    ⟨⟨fun _ => Iff.rfl, fun _ => Iff.rfl⟩, fun pre _ _ _ _ _ h => absurd h (by simp)⟩
    fun w h op _ => wstep_invariants v w op h.1 h.2

/-- The two halves of `mediator_stream_any_setting` that need no registry. -/
theorem mediator_invariants (types sources : List String) (cur : String) (ops : List (Bool × MOp)) :
    let s := mclose (mrunF { types := types, sources := sources, curSource := cur } ops)
    (∀ it ∈ s.w.out, ∀ i t src g, it = Item.event i t src g → g = true) ∧ Preceded s.w.out := by
  intro s
  rw [show s.w = _ from mclose_coherent _ (mrunF_coherent ops _ rfl)]
  exact ⟨only_valid_events_written true rfl s.issued {} (fun _ hit => nomatch hit), (wrun_invariants true s.issued).2⟩

/-- C17: the output of a mediator parses, holds only accepted events and has every event preceded by
its ontology, also when invalid events start (or stop) being ignored at any point of the session -/
theorem mediator_stream_any_setting (reg : Registry) (types sources : List String) (cur : String)
    (ops : List (Bool × MOp)) :
    let s := mclose (mrunF { types := types, sources := sources, curSource := cur } ops)
    (∃ p', prun reg {} s.w.out = (p', none) ∧ Agree reg s.w p') ∧
    (∀ it ∈ s.w.out, ∀ i t src g, it = Item.event i t src g → g = true) ∧ Preceded s.w.out := by
  intro s
  refine ⟨?_, mediator_invariants types sources cur ops⟩
  rw [show s.w = _ from mclose_coherent _ (mrunF_coherent ops _ rfl)]
  exact written_stream_parses_from_start reg true (fun _ => rfl) s.issued

/-- C17: whatever records are processed and whatever sources are registered in between, with either
setting of `ignore_invalid_events()`, the validating parser reads the children a mediator has emitted
after `close()` without error and delivers exactly the written events, in order. -/
theorem mediator_stream_parses (reg : Registry) (ig : Bool) (types sources : List String) (cur : String)
    (ops : List MOp) :
    let s := mclose (mrun ig { types := types, sources := sources, curSource := cur } ops)
    ∃ p', prun reg {} s.w.out = (p', none) ∧ Agree reg s.w p' := by
  rw [mrun_eq_mrunF]
  exact (mediator_stream_any_setting reg types sources cur _).1

/-- C17: only events that the gate accepted are ever written -/
theorem mediator_writes_only_accepted (ig : Bool) (types sources : List String) (cur : String) (ops : List MOp) :
    let s := mclose (mrun ig { types := types, sources := sources, curSource := cur } ops)
    ∀ it ∈ s.w.out, ∀ i t src g, it = Item.event i t src g → g = true := by
  rw [mrun_eq_mrunF]
  exact (mediator_invariants types sources cur _).1

/-- C17: in the output of a mediator every event is preceded by ontology elements that define its
event type and its source -/
theorem ontology_precedes_events (ig : Bool) (types sources : List String) (cur : String) (ops : List MOp) :
    Preceded (mclose (mrun ig { types := types, sources := sources, curSource := cur } ops)).w.out := by
  rw [mrun_eq_mrunF]
  exact (mediator_invariants types sources cur _).2

theorem invalid_event_never_written (ig : Bool) (types sources : List String) (cur : String) (ops : List MOp) :
    let s := mclose (mrun ig { types := types, sources := sources, curSource := cur } ops)
    ∀ i t src, Item.event i t src false ∉ s.w.out := by
  intro s i t src hm
  cases mediator_writes_only_accepted ig types sources cur ops _ hm i t src false rfl

/-- an event the gate rejects leaves the output as it was (apart from the ontology update that
precedes every event), and the call raises exactly when invalid events are not ignored -/
theorem skipped_or_raised (ig : Bool) (s : MState) (e : GenEvent) (hg : e.gateOk = false) :
    (writeEvent ig s e).2 = (if ig then none else some PErr.eventValidation) ∧
    eventIdxs (writeEvent ig s e).1.w.out = eventIdxs s.w.out := by
  have key : ∀ (w : WState) (i : Nat) (t src : String),
      wstep true w (.addEvent i t src false) = (w, some PErr.eventValidation) := fun w i t src => by
    rw [wstep_event, verdict_gate_false]
  constructor
  · unfold writeEvent MState.call
    simp only [hg, key]
    cases ig <;> rfl
  · rw [writeEvent_fst, hg]
    unfold MState.call
    rw [key]
    -- what `close()` may have written is no event
    unfold mclose MState.call
    split
    · rfl
    · exact (eventIdxs_append _ _).trans (List.append_nil _)

/-- ... and an invalid event in the middle of a record does not keep the later events of that record
from being written once invalid events are ignored -/
theorem ignored_event_does_not_end_the_record (s : MState) (e : GenEvent) (es : List GenEvent) (hg : e.gateOk = false) :
    writeEvents true s (e :: es) = writeEvents true (writeEvent true s e).1 es := by
  have h2 := (skipped_or_raised true s e hg).1
  rw [writeEvents]
  cases hx : writeEvent true s e with
  | mk a b =>
    rw [hx] at h2
    cases h2
    rfl

example : (mclose (mrun false { types := ["t"], sources := ["/a/"], curSource := "/a/" }
    [.record [⟨1, "t", true⟩], .addSource "/b/", .setSource "/b/", .record [⟨2, "t", false⟩, ⟨3, "t", true⟩],
     .record [⟨4, "t", true⟩]])).w.out =
    [.ont .ok ["t"] ["/a/"], .event 1 "t" "/a/" true, .ont .ok ["t"] ["/a/", "/b/"], .event 4 "t" "/b/" true] := by
  decide +kernel

section lookup
open Edxml.Transcode

theorem getProp_setProp (ps : List (String × List RVal)) (p q : String) (vs : List RVal) :
    getProp (setProp ps p vs) q = if q = p then some vs else getProp ps q := by
  unfold setProp getProp
  split
  next hany =>
    -- overwritten in place: the entries keep their names
    have hkeep : ∀ kv : String × List RVal, (if kv.1 == p then (p, vs) else kv).1 = kv.1 := fun kv => by
      split <;> simp_all
    rw [find?_key_map (key := Prod.fst) (key' := Prod.fst) hkeep]
    cases hf : ps.find? (·.1 == q) with
    | none =>
      rw [if_neg]; rfl
      rintro rfl
      obtain ⟨kv, hkv, e⟩ := List.any_eq_true.mp hany
      exact List.find?_eq_none.mp hf kv hkv e
    | some kv =>
      obtain ⟨-, rfl⟩ := find?_key_some hf
      by_cases hq : kv.1 = p <;> simp [hq]
  next hany =>
    rw [List.find?_append]
    by_cases hq : q = p
    · subst hq
      rw [List.find?_eq_none.mpr fun kv hkv e => hany (List.any_eq_true.mpr ⟨kv, hkv, e⟩)]
      simp
    · simp [hq, Ne.symm hq]

theorem getProp_setAll (ps : List (String × List RVal)) (names : List String) (vs : List RVal) (q : String) :
    getProp (names.foldl (fun ps p => setProp ps p vs) ps) q = if q ∈ names then some vs else getProp ps q := by
  induction names generalizing ps with
  | nil => simp
  | cons n rest ih =>
    simp only [List.foldl_cons, List.mem_cons]
    rw [ih, getProp_setProp]
    by_cases h1 : q ∈ rest
    · simp [h1]
    · by_cases h2 : q = n <;> simp [h1, h2]

/-- one more entry of the property map: the properties it names receive the values of its field when
the field is found; everything else stays -/
theorem generateProps_snoc (r : RVal) (pmap : List MapEntry) (e : MapEntry) (q : String) :
    getProp (generateProps r (pmap ++ [e])) q =
      match fieldValues e.empty (descend r (pathOf e.selector)) with
      | some vs => if q ∈ e.props then some vs else getProp (generateProps r pmap) q
      | none => getProp (generateProps r pmap) q := by
  unfold generateProps
  rw [List.foldl_append]
  simp only [List.foldl_cons, List.foldl_nil]
  cases hf : fieldValues e.empty (descend r (pathOf e.selector)) with
  | none => rfl
  | some vs => exact getProp_setAll _ e.props vs q

/-- **C17**: whatever a generated event holds for a property are the values of a record field whose
path the property map names for that property -/
theorem generated_from_named_fields (r : RVal) (pmap : List MapEntry) (q : String) (vs : List RVal)
    (h : getProp (generateProps r pmap) q = some vs) :
    ∃ e ∈ pmap, q ∈ e.props ∧ fieldValues e.empty (descend r (pathOf e.selector)) = some vs := by
  revert h
  refine List.foldlRecOn (motive := fun ps => getProp ps q = some vs →
    ∃ e ∈ pmap, q ∈ e.props ∧ fieldValues e.empty (descend r (pathOf e.selector)) = some vs) pmap _
    (fun h => nomatch h) fun ps ih e he h => ?_
  cases hf : fieldValues e.empty (descend r (pathOf e.selector)) with
  | none => rw [hf] at h; exact ih h
  | some ws =>
    rw [hf, getProp_setAll] at h
    split at h
    · exact ⟨e, he, ‹_›, hf.trans h⟩
    · exact ih h

/-- what a found field gives -/
theorem fieldValues_spec (empty : List RVal) (v : RVal) (vs : List RVal) (h : fieldValues empty v = some vs) :
    match v with
    | .null => False
    | .list l => ∀ x, x ∈ vs ↔ x ∈ l ∧ isEmptyVal empty x = false
    | .bool b => vs = [.str (if b then "true" else "false")]
    | .int n => vs = if isEmptyVal empty (.int n) then [] else [.int n]
    | .str s => vs = if isEmptyVal empty (.str s) then [] else [.str s]
    | .obj kv => vs = if isEmptyVal empty (.obj kv) then [] else [.obj kv] := by
  cases v with
  | null => simp [fieldValues] at h
  | list l =>
    simp only [fieldValues, Option.some.injEq] at h
    subst h
    simp [List.mem_filter]
  | bool b | int n | str s | obj kv => simp only [fieldValues, Option.some.injEq] at h; exact h.symm

/-- a path that leads nowhere stays nowhere: nothing is made up below a missing field -/
theorem descend_null (path : List String) : descend .null path = .null := by
  induction path with
  | nil => rfl
  | cons f rest ih => exact ih

def exRec : RVal := .obj [("name", .str "alice"), ("sub", .obj [("n", .int 7)]), ("tags", .list [.str "a", .str "", .str "b"]),
  ("flag", .bool true)]
def exMap : List MapEntry := [⟨"name", ["name", "label"], [.str ""]⟩, ⟨"sub.n", ["n"], [.str ""]⟩, ⟨"tags", ["tags"], [.str ""]⟩,
  ⟨"flag", ["flag"], [.str ""]⟩, ⟨"missing.x", ["name"], [.str ""]⟩]
example : pathOf "a..b.0" = ["a", "", "b", "0"] := by decide +kernel
example : (generateProps exRec exMap).map (·.1) = ["name", "label", "n", "tags", "flag"] := by decide +kernel
example : (generateProps exRec exMap).map (·.2.length) = [1, 1, 1, 2, 1] := by decide +kernel
example : (match getProp (generateProps exRec exMap) "n" with | some [.int 7] => true | _ => false) = true := by decide +kernel

end lookup

end EdxmlProps.C17
