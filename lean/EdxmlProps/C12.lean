/-
C12 — Ontology change tracking never misses a change.

Two models: the change counter and the consumers that decide by it (`ChangeTrack.lean`), and the back
references along which a change is reported to the ontology (`Owner.lean`). No statement ties the
two: that the ontology reached by `notified` is the one whose counter `step` moves is the reading of
the models, not a theorem. `Owner.detach` (deleting a definition) has no theorem.
-/
import EdxmlModel
namespace EdxmlProps.C12
open Edxml.Track

theorem step_eq_or_lt (s : OntState) (k : MutKind) (st : Store) (hk : k ≠ .clear) :
    step s k st = s ∨ s.version < (step s k st).version := by
  fun_cases step s k st with
  | case1 => exact .inl rfl -- `set` to the value the store has
  | case4 => exact absurd rfl hk -- `clear`
  | _ => exact .inr (Nat.lt_succ_self _)

/-- **Soundness of one mutator call**: a mutator other than `clear()` that changes the serialization
increases the counter. -/
theorem counter_sound_step (s : OntState) (k : MutKind) (st : Store) (hk : k ≠ .clear)
    (hch : (step s k st).store ≠ s.store) : (step s k st).version > s.version :=
  (step_eq_or_lt s k st hk).resolve_left fun h => hch (by rw [h])

theorem counter_monotone (ops : List (MutKind × Store)) (hk : ∀ op ∈ ops, op.1 ≠ .clear) (s : OntState) :
    s.version ≤ (run s ops).version :=
  List.foldlRecOn (motive := fun s' => s.version ≤ s'.version) ops _ (Nat.le_refl _) fun s' hs' op hop =>
    Nat.le_trans hs' <|
      (step_eq_or_lt s' op.1 op.2 (hk op hop)).elim (fun h => Nat.le_of_eq (by rw [h])) Nat.le_of_lt

/-- **Soundness over histories**: if some call in a history of mutator calls without `clear()`
changed the serialization, `is_modified_since(v)` holds at the end for every counter value `v`
observed before that call. -/
theorem counter_sound (before after : List (MutKind × Store)) (op : MutKind × Store) (s : OntState)
    (hk : ∀ o ∈ op :: after, o.1 ≠ .clear)
    (hch : (step (run s before) op.1 op.2).store ≠ (run s before).store)
    (v : Nat) (hv : v ≤ (run s before).version) :
    modifiedSince (run s (before ++ op :: after)) v = true := by
  have e : run s (before ++ op :: after) = run (step (run s before) op.1 op.2) after := by
    simp [run, List.foldl_append]
  rw [e]
  have h1 := counter_sound_step (run s before) op.1 op.2 (hk op (by simp)) hch
  have h2 := counter_monotone after (fun o ho => hk o (List.mem_cons_of_mem _ ho)) (step (run s before) op.1 op.2)
  simp only [modifiedSince, decide_eq_true_eq]
  omega

/-- Invariant of a counter-keyed consumer: the counter value it remembers is not ahead of the
ontology's, and while the ontology's counter has that value, the consumer holds what the ontology
serializes to. -/
def ConsumerOk (c : Consumer) (s : OntState) : Prop :=
  match c.seen with
  | none => True
  | some (v, st) => v ≤ s.version ∧ (v = s.version → st = s.store)

theorem consumer_ok_step (c : Consumer) (s : OntState) (k : MutKind) (st : Store) (hk : k ≠ .clear)
    (h : ConsumerOk c s) : ConsumerOk c (step s k st) := by
  rcases step_eq_or_lt s k st hk with he | hlt
  · rw [he]; exact h
  · unfold ConsumerOk at *
    split at h
    · trivial
    · exact ⟨Nat.le_trans h.1 (Nat.le_of_lt hlt), fun hv => absurd (hv ▸ h.1) (Nat.not_le_of_gt hlt)⟩

theorem consumer_ok_view (c : Consumer) (s : OntState) (h : ConsumerOk c s) :
    (c.view s).1 = s.store ∧ ConsumerOk (c.view s).2 s := by
  unfold Consumer.view ConsumerOk at *
  cases hs : c.seen with
  | none => simp
  | some p =>
    obtain ⟨v, cached⟩ := p
    rw [hs] at h
    by_cases hm : modifiedSince s v = true
    · simp [hm]
    · simp only [hm, Bool.false_eq_true, if_false]
      have : v = s.version := by
        simp only [modifiedSince, decide_eq_true_eq] at hm; omega
      exact ⟨h.2 this, by rw [hs]; exact h⟩

/-- **Consumers never act on a stale ontology**: interleave any mutator calls (no `clear()`) with
look-ups of a counter-keyed consumer (event validator schema cache, mediator ontology output);
a look-up at the end, hence (on a prefix) every look-up, sees the ontology as it is then. -/
theorem consumer_never_stale : ∀ (ops : List (Option (MutKind × Store))) (c : Consumer) (s : OntState),
    (∀ o ∈ ops, ∀ m, o = some m → m.1 ≠ .clear) → ConsumerOk c s →
    let final := ops.foldl (fun (cs : Consumer × OntState) o =>
      match o with
      | some m => (cs.1, step cs.2 m.1 m.2)
      | none => ((cs.1.view cs.2).2, cs.2)) (c, s)
    (final.1.view final.2).1 = final.2.store := by
  intro ops c s hk h
  refine (consumer_ok_view _ _ (List.foldlRecOn (motive := fun cs : Consumer × OntState => ConsumerOk cs.1 cs.2)
    ops _ h fun cs hcs o ho => ?_)).1
  cases o with
  | some m => exact consumer_ok_step cs.1 cs.2 m.1 m.2 (hk _ ho m rfl) hcs
  | none => exact (consumer_ok_view cs.1 cs.2 hcs).2

/-- `clear()` breaks the property (known finding, pinned by the SDK's test suite): the counter is
reset, so a later state can carry a counter value observed before although the ontology differs, and
a counter-keyed consumer acts on the stale ontology. -/
theorem violated_by_clear :
    ∃ (s : OntState) (ops : List (MutKind × Store)) (c : Consumer),
      ConsumerOk c s ∧ (run s ops).store ≠ s.store ∧ modifiedSince (run s ops) s.version = false ∧
      (c.view (run s ops)).1 ≠ (run s ops).store :=
  ⟨{ store := [("a", "1")], version := 1 }, [(.clear, []), (.always, [("b", "2")])],
   { seen := some (1, [("a", "1")]) }, ⟨Nat.le_refl _, fun _ => rfl⟩, by decide, by decide, by decide⟩

/-! ### who is told about a change: the references from an element to what contains it -/

section owner
open Edxml.Owner

/-- what an ontology holds, at any depth -/
inductive Reach (h : Heap) (o : Nat) : Nat → Prop
  | root : Reach h o o
  | step {y x : Nat} : Reach h o y → x ∈ h.children y → Reach h o x

/-- the references are sound for ontology `o`: it has no holder, and everything it holds, at any
depth, refers back to its holder -/
structure Owned (h : Heap) (o : Nat) : Prop where
  top : h.owner o = none
  back : ∀ y x, Reach h o y → x ∈ h.children y → h.owner x = some y

/-- **C12: a change at any nesting depth is reported to the ontology that holds the element**: when
the references are sound, the notification walk from such an element ends at that ontology (given
fuel for its depth) -/
theorem notified_reaches_root (h : Heap) (o : Nat) (ho : Owned h o) (x : Nat) (hx : Reach h o x) :
    ∃ d, ∀ fuel, d ≤ fuel → notified h fuel x = o := by
  induction hx with
  | root =>
    refine ⟨0, fun fuel _ => ?_⟩
    cases fuel with
    | zero => rfl
    | succ n => simp [notified, ho.top]
  | step hy hmem ih =>
    rename_i y x
    obtain ⟨d, hd⟩ := ih
    refine ⟨d + 1, fun fuel hf => ?_⟩
    cases fuel with
    | zero => omega
    | succ n =>
      simp only [notified, ho.back y x hy hmem]
      exact hd n (by omega)

theorem mem_children_attach {h : Heap} {y x a b : Nat} :
    b ∈ (attach h y x).children a ↔ (a = y ∧ b = x) ∨ b ∈ h.children a := by
  simp only [attach]; split <;> simp [*]

theorem reach_attach {h : Heap} {o y x z : Nat} (hz : Reach (attach h y x) o z) (hfresh : h.children x = []) :
    Reach h o z ∨ z = x := by
  induction hz with
  | root => exact .inl .root
  | step _ hmem ih =>
    rcases mem_children_attach.mp hmem with ⟨_, rfl⟩ | hb
    · exact .inr rfl
    · rcases ih with ih | rfl
      · exact .inl (.step ih hb)
      · rw [hfresh] at hb; cases hb

/-- creating a definition in a container, or adopting one with its reference re-pointed, keeps the
references sound -/
theorem attach_owned (h : Heap) (o y x : Nat) (ho : Owned h o) (hy : Reach h o y) (hxo : x ≠ o)
    (hnew : ¬ Reach h o x) (hfresh : h.children x = []) : Owned (attach h y x) o := by
  refine ⟨by simp [attach, Ne.symm hxo, ho.top], fun a b ha hb => ?_⟩
  rcases mem_children_attach.mp hb with ⟨rfl, rfl⟩ | hb'
  · simp [attach]
  · rcases reach_attach ha hfresh with ha' | rfl
    · have hbne : b ≠ x := fun e => hnew (e ▸ .step ha' hb')
      simp [attach, hbne, ho.back a b ha' hb']
    · rw [hfresh] at hb'; cases hb'

/-- adopting a definition by reference WITHOUT re-pointing it breaks the invariant: its changes are
reported to where it came from (the defects repaired by a8e4706 and cef2148; what the ownership
audit of the correspondence check looks for) -/
theorem attachStale_breaks :
    let h : Heap := { owner := fun k => if k = 5 then some 9 else none, children := fun _ => [] }
    let h' := attachStale h 0 5
    5 ∈ h'.children 0 ∧ notified h' 3 5 = 9 ∧ ¬ Owned h' 0 := by
  refine ⟨by simp [attachStale], by simp [notified, attachStale], ?_⟩
  intro ho
  have := ho.back 0 5 Reach.root (by simp [attachStale])
  simp [attachStale] at this

/-- `ownedB` is `Owned.back` as a check on a finite list of (container, element) edges: what
`vf/ownership.py` asks of the real objects. Nothing in the Lean development evaluates it. -/
theorem ownedB_iff (h : Heap) (edges : List (Nat × Nat)) :
    ownedB h edges = true ↔ ∀ e ∈ edges, h.owner e.2 = some e.1 := by
  simp [ownedB, List.all_eq_true]

end owner

/-! ### Non-vacuity -/

example : ConsumerOk {} {} := trivial
example : (run {} [(.always, [("a", "1")]), (.set, [("a", "1")]), (.set, [("a", "2")])]).version = 2 := by decide

end EdxmlProps.C12
