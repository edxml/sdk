/-
C13. Object value normalization is idempotent, sound and value-preserving.

Model: `EdxmlModel/DataType/Normalize.lean` (`DataType.normalize_objects` and the `_normalize_*`
family) composed with the gate model of C03 (`EdxmlModel/DataType/Gate.lean`).
Proved here for the integer, decimal/currency, boolean and datetime families, base64 padding and
ASCII case folding. For the other families (ip, geo, float, ...) `normalize` answers `.undecided`:
they are judged by the harness' oracles only (DESIGN.md, C13).
-/
import EdxmlProps.Lemmas.Numerals
import EdxmlProps.C03
import EdxmlProps.Lemmas.Calendar
namespace EdxmlProps.C13
open Edxml.Gate Edxml.Norm

/-! ### integers -/

/-- what an in-domain input of an integer type denotes -/
def intDenotes : Native → Option Int
  | .int z => some z
  | .str s => parseInt s.toList
  | .dec neg c e => if e ≥ 0 then some (truncDec neg c e) else none
  | _ => none

theorem normInt_value (x : Native) (z : Int) (h : intDenotes x = some z) :
    normInt x = .ok (String.ofList (renderInt z)) ∧ intVal (renderInt z) = z := by
  refine ⟨?_, intVal_render z⟩
  cases x <;> simp only [intDenotes, Option.some.injEq, reduceCtorEq] at h
  · subst h; rfl
  · split at h <;> cases h
    rfl
  · simp only [normInt, h]

/-- the gate accepts the normal form (`renderInt z`, by `normInt_value`) exactly when the number is in
the range of the type -/
theorem normInt_accepted_iff (kind : String) (signed : Bool) (lo hi : Int)
    (hr : intRange kind signed = some (lo, hi)) (z : Int) :
    acceptsInt kind signed (renderInt z) = true ↔ lo ≤ z ∧ z ≤ hi := by
  rw [EdxmlProps.C03.acceptsInt_iff kind signed lo hi hr]
  constructor
  · rintro ⟨z', h1, h2, he⟩
    have : z = z' := by rw [← intVal_render z, he, intVal_render]
    subst this; exact ⟨h1, h2⟩
  · rintro ⟨h1, h2⟩; exact ⟨z, h1, h2, rfl⟩

theorem normInt_idempotent (z : Int) :
    normInt (.str (String.ofList (renderInt z))) = .ok (String.ofList (renderInt z)) := by
  simp only [normInt, String.toList_ofList, parseInt_renderInt]

/-- Known finding (pinned by the SDK's test suite): a number with a fractional part is truncated
into a valid integer object instead of being rejected. -/
theorem integer_truncation_violates :
    normInt (.dec false 59 (-1)) = .ok "5" ∧ acceptsInt "tinyint" false "5".toList = true := by
  constructor <;> decide +kernel

/-! ### booleans -/

theorem normBool_sound (x : Native) (s : String) (h : normBool x = .ok s) : s = "true" ∨ s = "false" := by
  unfold normBool at h
  split at h <;> cases h
  all_goals simp

theorem normBool_accepted (x : Native) (s : String) (info : StrInfo) (h : normBool x = .ok s) :
    acceptsFam .boolean info s = true := by
  rcases normBool_sound x s h with rfl | rfl <;> rfl

theorem normBool_idempotent (x : Native) (s : String) (h : normBool x = .ok s) : normBool (.str s) = .ok s := by
  rcases normBool_sound x s h with rfl | rfl <;> rfl

/-- every string but the four spellings of a truth value is rejected (never turned into `false`) -/
theorem normBool_str_rejects (s : String) (h : s ≠ "true" ∧ s ≠ "True" ∧ s ≠ "false" ∧ s ≠ "False") :
    normBool (.str s) = .reject := by
  unfold normBool
  split <;> simp_all

/-! ### decimals and currency -/

/-- in-domain decimal: no more fractional digits than the type has -/
theorem scaleDec_exact (frac coeff : Nat) (exp : Int) (h : -(frac : Int) ≤ exp) :
    scaleDec frac coeff exp = coeff * 10 ^ (exp + frac).toNat := by
  unfold scaleDec
  rw [if_pos (by omega)]

theorem normDecimal_accepted_iff (T F : Nat) (signed neg : Bool) (coeff : Nat) (exp : Int) :
    ∃ out, normDecimalOf F neg coeff exp = .ok out ∧
      (acceptsDecimal T F signed out.toList = true ↔
        ((neg = true ∧ scaleDec F coeff exp ≠ 0) → signed = true) ∧
        totalDigits (renderNat (scaleDec F coeff exp / 10 ^ F)) (fracDigits F (scaleDec F coeff exp)) ≤ T) :=
  ⟨_, rfl, by rw [String.toList_ofList]; exact renderScaled_accepted_iff T F signed neg _⟩

/-- the normal form reads back as the same number: sign (zero is unsigned), magnitude scaled by
`10^frac`, scale `-frac` -/
theorem normDecimal_value (F : Nat) (neg : Bool) (coeff : Nat) (exp : Int) (h : -(F : Int) ≤ exp) :
    ∃ out, normDecimalOf F neg coeff exp = .ok out ∧
      parseDec out.toList = some (neg && coeff * 10 ^ (exp + F).toNat != 0, coeff * 10 ^ (exp + F).toNat, -(F : Int)) := by
  refine ⟨_, rfl, ?_⟩
  rw [String.toList_ofList, parseDec_renderScaled, scaleDec_exact F coeff exp h]

theorem scaleDec_self (F n : Nat) : scaleDec F n (-(F : Int)) = n := by
  rw [scaleDec_exact F n _ (by omega), show (-(F : Int) + F).toNat = 0 by omega]; simp

theorem renderScaled_sign_idem (F : Nat) (neg : Bool) (n : Nat) :
    renderScaled F (neg && n != 0) n = renderScaled F neg n := by
  unfold renderScaled
  simp only [Bool.and_assoc, Bool.and_self]

theorem normDecimal_idempotent (F : Nat) (neg : Bool) (coeff : Nat) (exp : Int) :
    ∃ out, normDecimalOf F neg coeff exp = .ok out ∧ normDecimal F (.str out) = .ok out := by
  refine ⟨_, rfl, ?_⟩
  simp only [normDecimal, String.toList_ofList, parseDec_renderScaled, normDecimalOf, scaleDec_self,
    renderScaled_sign_idem]

/-- a scaled magnitude of zero (negative zero, or what `scaleDec` rounded to zero) is written without a sign -/
theorem normDecimal_zero_unsigned (F : Nat) (neg : Bool) :
    renderScaled F neg 0 = renderScaled F false 0 := by
  unfold renderScaled; simp

/-! ### base64 padding, ASCII case folding -/

theorem normBase64_length (s o : String) (h : normBase64 (.str s) = .ok o) : o.length % 4 = 0 := by
  simp only [normBase64] at h
  repeat' split at h
  all_goals cases h
  simp only [String.length_ofList, List.length_append, List.length_replicate]
  omega

theorem toNat_asciiLower {c : Char} (h : 65 ≤ c.toNat ∧ c.toNat ≤ 90) : (asciiLower c).toNat = c.toNat + 32 := by
  rw [asciiLower, if_pos (by simpa [charLe_iff] using h), toNat_ofNat (by omega)]

theorem asciiLower_eq_self {c : Char} (h : ¬ (65 ≤ c.toNat ∧ c.toNat ≤ 90)) : asciiLower c = c := by
  rw [asciiLower, if_neg (by simpa [charLe_iff] using h)]

theorem toNat_asciiUpper {c : Char} (h : 97 ≤ c.toNat ∧ c.toNat ≤ 122) : (asciiUpper c).toNat = c.toNat - 32 := by
  rw [asciiUpper, if_pos (by simpa [charLe_iff] using h), toNat_ofNat (by omega)]

theorem asciiUpper_eq_self {c : Char} (h : ¬ (97 ≤ c.toNat ∧ c.toNat ≤ 122)) : asciiUpper c = c := by
  rw [asciiUpper, if_neg (by simpa [charLe_iff] using h)]

theorem asciiLower_idempotent (c : Char) : asciiLower (asciiLower c) = asciiLower c := by
  by_cases h : 65 ≤ c.toNat ∧ c.toNat ≤ 90
  · exact asciiLower_eq_self (by rw [toNat_asciiLower h]; omega)
  · rw [asciiLower_eq_self h]; exact asciiLower_eq_self h

theorem asciiUpper_idempotent (c : Char) : asciiUpper (asciiUpper c) = asciiUpper c := by
  by_cases h : 97 ≤ c.toNat ∧ c.toNat ≤ 122
  · exact asciiUpper_eq_self (by rw [toNat_asciiUpper h]; omega)
  · rw [asciiUpper_eq_self h]; exact asciiUpper_eq_self h

theorem asciiLower_ascii (c : Char) (h : c.toNat < 128) : (asciiLower c).toNat < 128 := by
  by_cases hu : 65 ≤ c.toNat ∧ c.toNat ≤ 90
  · rw [toNat_asciiLower hu]; omega
  · rw [asciiLower_eq_self hu]; exact h

theorem normHex_idempotent (s o : String) (h : normHex (.str s) = .ok o) : normHex (.str o) = .ok o := by
  simp only [normHex] at h
  split at h
  · rename_i ha
    obtain rfl := Out.ok.inj h
    have hasc : isAscii (String.ofList (s.toList.map asciiLower)) = true := by
      simp only [isAscii, String.toList_ofList, List.all_map, List.all_eq_true, Function.comp_apply,
        decide_eq_true_eq] at ha ⊢
      exact fun c hc => asciiLower_ascii c (ha c hc)
    simp only [normHex, hasc, if_true, String.toList_ofList, List.map_map]
    rw [show asciiLower ∘ asciiLower = asciiLower from funext asciiLower_idempotent]
  · cases h

/-! ### datetime -/

/-- The three theorems on aware datetimes below are this: the first with the date weakened to ranges, the
second the converse at offset zero, the third carried on to the gate. -/
theorem normDatetime_aware {y mo d h mi s us : Nat} {o : Int} {str : String} :
    normDatetime (.datetime y mo d h mi s us (some o)) = .ok str ↔
    ∃ y' mo' d' h' mi' : Nat, str = formatUtc y' mo' d' h' mi' s us ∧ (1000 ≤ y' ∧ y' ≤ 9999) ∧
      validDate y' mo' d' ∧ h' < 24 ∧ mi' < 60 ∧
      instantMin y' mo' d' h' mi' = instantMin y mo d h mi - o := by
  simp only [normDatetime, instantMin]
  generalize (daysFromCivil (y : Int) (mo : Int) (d : Int) * 24 + (h : Int)) * 60 + (mi : Int) - o = total
  rw [Int.fdiv_eq_ediv_of_nonneg _ (by decide), Int.fmod_eq_emod_of_nonneg _ (by decide)]
  constructor
  · intro hn
    generalize hC : civilFromDays (total / 1440) = c at hn
    obtain ⟨y', mo', d'⟩ := c
    split at hn
    · rename_i hg
      simp only [Bool.and_eq_true, decide_eq_true_eq] at hg
      -- a year from 1000 on comes out only for days on which `civilFromDays` is right
      have hdays : -719468 ≤ total / 1440 := Int.not_lt.mp fun hlt => by
        have := civilFromDays_early hlt hC
        omega
      obtain ⟨hv, hb⟩ := civilFromDays_spec hdays hC
      obtain ⟨yn, rfl⟩ := Int.eq_ofNat_of_zero_le (show 0 ≤ y' by omega)
      obtain ⟨mn, rfl⟩ := Int.eq_ofNat_of_zero_le (show 0 ≤ mo' by have := hv.1; omega)
      obtain ⟨dn, rfl⟩ := Int.eq_ofNat_of_zero_le (show 0 ≤ d' by have := hv.2.2.1; omega)
      simp only [Int.toNat_natCast] at hn
      refine ⟨yn, mn, dn, _, _, (Out.ok.inj hn).symm, by omega, hv, by omega, by omega, ?_⟩
      rw [hb]
      omega
    · cases hn
  · rintro ⟨y', mo', d', h', mi', rfl, hy, hv, hh, hmi, hi⟩
    generalize hD : daysFromCivil (y' : Int) (mo' : Int) (d' : Int) = D at hi
    have h1 : total / 1440 = D := by omega
    have h2 : total % 1440 = ((h' * 60 + mi' : Nat) : Int) := by omega
    rw [h1, h2, ← hD, civilFromDays_daysFromCivil y' mo' d' (by omega) hv]
    have hg : (decide ((1000 : Int) ≤ (y' : Int)) && decide ((y' : Int) ≤ 9999)) = true := by
      simp only [Bool.and_eq_true, decide_eq_true_eq]; omega
    simp only [hg, if_true, Int.toNat_natCast, two_digits hmi]

theorem daysIn_le (y m : Nat) : daysIn y m ≤ 31 := by
  unfold daysIn; split <;> split <;> omega

/-- C13: normalising a datetime that carries a UTC offset yields the UTC notation of the same
instant: same minute since the epoch (seconds and microseconds are carried over) -/
theorem normDatetime_preserves_instant (y mo d h mi s us : Nat) (o : Int) (str : String)
    (hn : normDatetime (.datetime y mo d h mi s us (some o)) = .ok str) :
    ∃ y' mo' d' h' mi' : Nat, str = formatUtc y' mo' d' h' mi' s us ∧ 1000 ≤ y' ∧ y' ≤ 9999 ∧ 1 ≤ mo' ∧ mo' ≤ 12 ∧
      1 ≤ d' ∧ d' ≤ 31 ∧ h' < 24 ∧ mi' < 60 ∧
      instantMin y' mo' d' h' mi' = instantMin y mo d h mi - o := by
  obtain ⟨y', mo', d', h', mi', hstr, hy, hv, hh, hmi, hi⟩ := normDatetime_aware.mp hn
  obtain ⟨v1, v2, v3, v4⟩ := validDate_nat _ _ _ hv
  exact ⟨y', mo', d', h', mi', hstr, hy.1, hy.2, v1, v2, v3, Nat.le_trans v4 (daysIn_le _ _), hh, hmi, hi⟩

/-- C13: a valid UTC date and time (offset zero) is normalised to its own notation: conversion to
UTC changes nothing, so a naive datetime (taken as UTC) and the same datetime marked as UTC agree -/
theorem normDatetime_utc_fixed (y mo d h mi s us : Nat) (hy : 1000 ≤ y ∧ y ≤ 9999)
    (hv : validDate y mo d) (hh : h < 24) (hmi : mi < 60) :
    normDatetime (.datetime y mo d h mi s us (some 0)) = .ok (formatUtc y mo d h mi s us) ∧
    normDatetime (.datetime y mo d h mi s us none) = .ok (formatUtc y mo d h mi s us) := by
  constructor
  · exact normDatetime_aware.mpr ⟨y, mo, d, h, mi, rfl, hy, hv, hh, hmi, (Int.sub_zero _).symm⟩
  · simp only [normDatetime]
    rw [if_pos (by omega)]

theorem length_eq_two {l : List α} (h : l.length = 2) : ∃ a b, l = [a, b] :=
  match l, h with
  | [a, b], _ => ⟨a, b, rfl⟩

theorem length_eq_four {l : List α} (h : l.length = 4) : ∃ a b c d, l = [a, b, c, d] :=
  match l, h with
  | [a, b, c, d], _ => ⟨a, b, c, d, rfl⟩

theorem length_eq_six {l : List α} (h : l.length = 6) : ∃ a b c d e f, l = [a, b, c, d, e, f] :=
  match l, h with
  | [a, b, c, d, e, f], _ => ⟨a, b, c, d, e, f, rfl⟩

theorem formatUtc_accepted (y mo d h mi s us : Nat) (hy : 1583 ≤ y ∧ y ≤ 9999) (hmo : 1 ≤ mo ∧ mo ≤ 12)
    (hd : 1 ≤ d ∧ d ≤ daysIn y mo) (hh : h ≤ 23) (hmi : mi ≤ 59) (hs : s ≤ 59) (hus : us ≤ 999999) :
    acceptsDatetime (formatUtc y mo d h mi s us).toList = true := by
  have hd31 := Nat.le_trans hd.2 (daysIn_le y mo)
  obtain ⟨ly, ay, ny⟩ := (pad_eq_iff (by decide)).mp ⟨show y < 10 ^ 4 by omega, rfl⟩
  obtain ⟨lm, am, nm⟩ := (pad_eq_iff (by decide)).mp ⟨show mo < 10 ^ 2 by omega, rfl⟩
  obtain ⟨ld, ad, nd⟩ := (pad_eq_iff (by decide)).mp ⟨show d < 10 ^ 2 by omega, rfl⟩
  obtain ⟨lh, ah, nh⟩ := (pad_eq_iff (by decide)).mp ⟨show h < 10 ^ 2 by omega, rfl⟩
  obtain ⟨ln, an, nn⟩ := (pad_eq_iff (by decide)).mp ⟨show mi < 10 ^ 2 by omega, rfl⟩
  obtain ⟨ls, as, ns⟩ := (pad_eq_iff (by decide)).mp ⟨show s < 10 ^ 2 by omega, rfl⟩
  obtain ⟨lf, af, -⟩ := (pad_eq_iff (by decide)).mp ⟨show us < 10 ^ 6 by omega, rfl⟩
  obtain ⟨y1, y2, y3, y4, ey⟩ := length_eq_four ly
  obtain ⟨m1, m2, em⟩ := length_eq_two lm
  obtain ⟨d1, d2, ed⟩ := length_eq_two ld
  obtain ⟨h1, h2, eh⟩ := length_eq_two lh
  obtain ⟨n1, n2, en⟩ := length_eq_two ln
  obtain ⟨s1, s2, es⟩ := length_eq_two ls
  obtain ⟨f1, f2, f3, f4, f5, f6, ef⟩ := length_eq_six lf
  rw [ey] at ay ny; rw [em] at am nm; rw [ed] at ad nd; rw [eh] at ah nh; rw [en] at an nn
  rw [es] at as ns; rw [ef] at af
  have hds : ([y1, y2, y3, y4] ++ [m1, m2] ++ [d1, d2] ++ [h1, h2] ++ [n1, n2] ++ [s1, s2] ++
      [f1, f2, f3, f4, f5, f6]).all isDigit = true := by
    simp only [List.all_append, ay, am, ad, ah, an, as, af, Bool.and_self]
  simp only [formatUtc, String.toList_ofList, ey, em, ed, eh, en, es, ef, List.cons_append, List.nil_append,
    acceptsDatetime, ny, nm, nd, nh, nn, ns, Bool.and_eq_true, decide_eq_true_eq]
  exact ⟨⟨⟨⟨⟨⟨⟨⟨hds, hy.1⟩, hmo.1⟩, hmo.2⟩, hd.1⟩, hd.2⟩, hh⟩, hmi⟩, hs⟩

/-- C03/C13: the value space of `datetime` is exactly the UTC notations of real dates and times of day
from the year 1583 on (the normal forms that normalisation produces) -/
theorem accepts_datetime_iff (cs : List Char) :
    acceptsDatetime cs = true ↔
      ∃ y mo d h mi s us : Nat, (1583 ≤ y ∧ y ≤ 9999) ∧ (1 ≤ mo ∧ mo ≤ 12) ∧ (1 ≤ d ∧ d ≤ daysIn y mo) ∧ h ≤ 23 ∧ mi ≤ 59 ∧
        s ≤ 59 ∧ us ≤ 999999 ∧ cs = (formatUtc y mo d h mi s us).toList := by
  constructor
  · intro h
    unfold acceptsDatetime at h
    split at h
    · rename_i y1 y2 y3 y4 m1 m2 d1 d2 h1 h2 n1 n2 s1 s2 f1 f2 f3 f4 f5 f6
      simp only [Bool.and_eq_true, decide_eq_true_eq] at h
      obtain ⟨⟨⟨⟨⟨⟨⟨⟨hds, hy⟩, hm1⟩, hm2⟩, hd1⟩, hd2⟩, hh⟩, hn⟩, hs⟩ := h
      -- the twenty digits, field by field
      replace hds : ([y1, y2, y3, y4] ++ [m1, m2] ++ [d1, d2] ++ [h1, h2] ++ [n1, n2] ++ [s1, s2] ++
          [f1, f2, f3, f4, f5, f6]).all isDigit = true := hds
      simp only [List.all_append, Bool.and_eq_true] at hds
      obtain ⟨⟨⟨⟨⟨⟨ay, am⟩, ad⟩, ah⟩, an⟩, as⟩, af⟩ := hds
      obtain ⟨by4, ey⟩ := (pad_eq_iff (k := 4) (by decide)).mpr ⟨rfl, ay, rfl⟩
      obtain ⟨-, em⟩ := (pad_eq_iff (k := 2) (by decide)).mpr ⟨rfl, am, rfl⟩
      obtain ⟨-, ed⟩ := (pad_eq_iff (k := 2) (by decide)).mpr ⟨rfl, ad, rfl⟩
      obtain ⟨-, eh⟩ := (pad_eq_iff (k := 2) (by decide)).mpr ⟨rfl, ah, rfl⟩
      obtain ⟨-, en⟩ := (pad_eq_iff (k := 2) (by decide)).mpr ⟨rfl, an, rfl⟩
      obtain ⟨-, es⟩ := (pad_eq_iff (k := 2) (by decide)).mpr ⟨rfl, as, rfl⟩
      obtain ⟨bf6, ef⟩ := (pad_eq_iff (k := 6) (by decide)).mpr ⟨rfl, af, rfl⟩
      refine ⟨natVal [y1, y2, y3, y4], natVal [m1, m2], natVal [d1, d2], natVal [h1, h2], natVal [n1, n2],
        natVal [s1, s2], natVal [f1, f2, f3, f4, f5, f6], ⟨hy, by omega⟩, ⟨hm1, hm2⟩, ⟨hd1, hd2⟩, hh, hn, hs,
        by omega, ?_⟩
      simp only [formatUtc, String.toList_ofList, ey, em, ed, eh, en, es, ef, List.cons_append, List.nil_append]
    · cases h
  · rintro ⟨y, mo, d, h, mi, s, us, hy, hmo, hd, hh, hmi, hs, hus, hcs⟩
    rw [hcs]
    exact formatUtc_accepted y mo d h mi s us hy hmo hd hh hmi hs hus

/-- C13: the UTC notation that a datetime with a UTC offset is normalised to is in the value space of
`datetime` (from the year 1583 on, where the value space begins) -/
theorem normDatetime_aware_sound (y mo d h mi s us : Nat) (o : Int) (str : String) (hs : s ≤ 59) (hus : us ≤ 999999)
    (hn : normDatetime (.datetime y mo d h mi s us (some o)) = .ok str) :
    ∃ y' mo' d' h' mi' : Nat, str = formatUtc y' mo' d' h' mi' s us ∧
      instantMin y' mo' d' h' mi' = instantMin y mo d h mi - o ∧
      (1583 ≤ y' → acceptsDatetime str.toList = true) := by
  obtain ⟨y', mo', d', h', mi', hstr, hy, hv, hh, hmi, hi⟩ := normDatetime_aware.mp hn
  obtain ⟨v1, v2, v3, v4⟩ := validDate_nat _ _ _ hv
  exact ⟨y', mo', d', h', mi', hstr, hi, fun hy' => hstr ▸
    formatUtc_accepted _ _ _ _ _ s us ⟨hy', hy.2⟩ ⟨v1, v2⟩ ⟨v3, v4⟩ (by omega) (by omega) hs hus⟩

/-- a date and an offset for which the theorem above is not vacuous: 2020-02-29T23:30+02:00 -/
example : normDatetime (.datetime 2020 2 29 23 30 5 7 (some 120)) = .ok "2020-02-29T21:30:05.000007Z" := by decide +kernel
example : normDatetime (.datetime 2020 3 1 0 30 5 7 (some 120)) = .ok "2020-02-29T22:30:05.000007Z" := by decide +kernel
example : validDate 2020 2 29 ∧ ¬ validDate 2021 2 29 := by
  unfold validDate daysInMonth leapYear; decide

/-! ### the model on concrete values -/

example : normalize "number:tinyint" (.str "+007") = .ok "7" := by decide +kernel
example : normalize "number:decimal:5:2:signed" (.dec true 15 (-1)) = .ok "-1.50" := by decide +kernel
example : normalize "number:decimal:5:2:signed" (.dec true 0 0) = .ok "0.00" := by decide +kernel
example : normalize "number:decimal:5:2" (.str "1e2") = .ok "100.00" := by decide +kernel
example : normalize "number:decimal:5:2" (.dec false 5 (-3)) = .ok "0.00" := by decide +kernel
example : normalize "number:decimal:5:2" (.dec false 15 (-3)) = .ok "0.02" := by decide +kernel
example : normalize "boolean" (.str "TRUE") = .reject := by decide +kernel
example : normalize "base64:0" (.str "YWE") = .ok "YWE=" := by decide +kernel
example : normalize "hex:2" (.str "AbCd") = .ok "abcd" := by decide +kernel
example : normalize "datetime" (.datetime 2020 1 1 1 0 0 0 (some 120)) = .ok "2019-12-31T23:00:00.000000Z" := by
  decide +kernel
example : accepts "number:decimal:5:2:signed" ⟨false, false, true, none⟩ "-1.50" = true := by decide +kernel

end EdxmlProps.C13
