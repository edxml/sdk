/-
C19 — Streaming parse keeps memory bounded.

The children of the root that the parser machine retains are bounded by a constant plus the number
of foreign elements seen: those the parser never releases; events and ontology elements it does.

Second half: the same kind of bound for the clean-up of the XML transcoder mediator (model:
`Stream/XmlMediator.lean`): what a parent element retains does not grow with the number of records.
-/
import EdxmlModel.Stream.XmlMediator
import EdxmlProps.Lemmas.Parser
import EdxmlProps.C06
namespace EdxmlProps.C19
open Edxml

def isForeign : Item → Bool
  | .foreign _ => true
  | _ => false

def countForeign (items : List Item) : Nat := (items.filter isForeign).length

def b2n (b : Bool) : Nat := if b then 1 else 0

/-- The retention invariant; `nf` is the number of foreign elements processed so far. -/
structure Inv (s : PState) (nf : Nat) : Prop where
  ontSeen : s.ont.isSome = true → s.initialSeen = true
  nonempty : s.initialSeen = true → 1 ≤ s.children.length
  evSeen : 1 ≤ s.nEvents → s.initialSeen = true
  bound : s.children.length ≤ nf + b2n s.initialSeen + b2n (decide (1 ≤ s.nEvents))
  sizes : ∀ p ∈ s.sizes, p.2 ≤ 3 + nf

theorem inv_init : Inv {} 0 :=
  ⟨fun h => (by cases h), fun h => (by cases h), fun h => (by cases h), Nat.zero_le _, fun _ hp => (by cases hp)⟩

theorem b2n_le (b : Bool) : b2n b ≤ 1 := by unfold b2n; split <;> omega

theorem Inv.length_le {s : PState} {nf : Nat} (h : Inv s nf) : s.children.length ≤ 2 + nf := by
  have := h.bound
  have := b2n_le s.initialSeen
  have := b2n_le (decide (1 ≤ s.nEvents))
  omega

/-- The element just completed is appended; when `release` holds the second child of the root is
deleted, which there is. -/
theorem length_release (l : List Kind) (k : Kind) (release : Prop) [Decidable release] (h : release → 1 ≤ l.length) :
    1 ≤ (if release then (l ++ [k]).eraseIdx 1 else l ++ [k]).length ∧
    (if release then (l ++ [k]).eraseIdx 1 else l ++ [k]).length + b2n (decide release) = l.length + 1 := by
  by_cases hr : release
  · have := h hr
    simp only [hr, if_true, decide_true, List.length_eraseIdx, List.length_append, List.length_singleton, b2n]
    rw [if_pos (by omega)]
    omega
  · simp only [hr, if_false, decide_false, List.length_append, List.length_singleton, b2n, Bool.false_eq_true]
    exact ⟨Nat.le_add_left _ _, trivial⟩

/-- An ontology element or an event takes the place of the initial ontology, of the one delivered
event that `bound` allows for, or of the child released for it; a foreign element stays. -/
theorem step_inv {reg : Registry} {s : PState} {nf : Nat} {it : Item} (hI : Inv s nf)
    (hv : verdict reg.validate s.ont it = none) : Inv (pstep reg s it).1 (nf + b2n (isForeign it)) := by
  have hb := hI.bound
  rw [pstep_eq, hv]
  cases it with
  | foreign i =>
    refine ⟨hI.ontSeen, fun _ => ?_, hI.evSeen, ?_, fun p hp => ?_⟩
    · show 1 ≤ (s.children ++ [Kind.foreign]).length
      rw [List.length_append]; exact Nat.le_add_left _ _
    · show (s.children ++ [Kind.foreign]).length ≤ nf + 1 + b2n s.initialSeen + b2n (decide (1 ≤ s.nEvents))
      rw [List.length_append, List.length_singleton]; omega
    · exact Nat.le_succ_of_le (hI.sizes p hp)
  | ont k ts ss =>
    obtain ⟨h1, hl⟩ := length_release s.children .ont (s.initialSeen = true) hI.nonempty
    rw [Bool.decide_eq_true] at hl
    refine ⟨fun _ => rfl, fun _ => h1, fun _ => rfl, ?_, fun p hp => ?_⟩
    · show (if s.initialSeen = true then _ else _ : List Kind).length ≤ nf + 0 + 1 + b2n (decide (1 ≤ s.nEvents))
      omega
    · exact hI.sizes p hp
  | event i t src g =>
    obtain ⟨ts, ss, ho, -⟩ := verdict_event_eq_none.mp hv
    have hseen : s.initialSeen = true := hI.ontSeen (by rw [ho]; rfl)
    obtain ⟨h1, hl⟩ := length_release s.children .event (1 ≤ s.nEvents) (fun _ => hI.nonempty hseen)
    have hB' : b2n (decide (1 ≤ s.nEvents + 1)) = 1 := by simp [b2n]
    refine ⟨fun _ => hseen, fun _ => h1, fun _ => hseen, ?_, fun p hp => ?_⟩
    · show (if 1 ≤ s.nEvents then _ else _ : List Kind).length ≤
        nf + 0 + b2n s.initialSeen + b2n (decide (1 ≤ s.nEvents + 1))
      omega
    · rcases List.mem_append.mp hp with hp | hp
      · exact hI.sizes p hp
      · cases List.mem_singleton.mp hp
        have := hI.length_le
        show s.children.length + 1 ≤ 3 + (nf + 0)
        omega

theorem countForeign_cons (it : Item) (items : List Item) :
    countForeign (it :: items) = b2n (isForeign it) + countForeign items := by
  unfold countForeign b2n
  simp only [List.filter_cons]
  split <;> simp <;> omega

/-- The invariant along a whole run; on error the last, refused element is still in the tree. -/
theorem run_inv (reg : Registry) : ∀ (items : List Item) (s : PState) (nf : Nat), Inv s nf →
    (∀ p ∈ (prun reg s items).1.sizes, p.2 ≤ 3 + nf + countForeign items) ∧
    (prun reg s items).1.children.length ≤ 3 + nf + countForeign items ∧
    ((prun reg s items).2 = none → Inv (prun reg s items).1 (nf + countForeign items))
  | [], s, nf, hI =>
    ⟨fun p hp => Nat.le_add_right_of_le (hI.sizes p hp), by have := hI.length_le; show s.children.length ≤ _; omega,
      fun _ => hI⟩
  | it :: items, s, nf, hI => by
    rw [prun_cons, countForeign_cons]
    cases hv : verdict reg.validate s.ont it with
    | none =>
      -- `nf + (b + c)` and `3 + nf + (b + c)` as the induction hypothesis has them, with `nf + b` for `nf`
      rw [← Nat.add_assoc nf, ← Nat.add_assoc (3 + nf), Nat.add_assoc 3 nf]
      exact run_inv reg items _ _ (step_inv hI hv)
    | some err =>
      rw [pstep_eq, hv]
      have := hI.length_le
      refine ⟨fun p hp => Nat.le_add_right_of_le (hI.sizes p hp), ?_, fun he => nomatch he⟩
      show (s.children ++ [it.kind]).length ≤ _
      rw [List.length_append, List.length_singleton]; omega

/-- **Bounded retention.** For every document (any length) and every way of feeding it, at every
event dispatch the root retains at most 3 + (number of foreign elements in the document) children:
the initial ontology, at most one already delivered element, the event being delivered. -/
theorem retention_bounded (reg : Registry) (cs : List (List Item)) :
    ∀ p ∈ (feedAll reg {} cs).1.sizes, p.2 ≤ 3 + countForeign cs.flatten := by
  rw [C06.feed_join]
  intro p hp
  have := (run_inv reg cs.flatten {} 0 inv_init).1 p hp
  omega

/-- Without foreign elements the bound is the constant 3, whatever the number of events. -/
theorem retention_bounded_no_foreign (reg : Registry) (cs : List (List Item))
    (hnf : countForeign cs.flatten = 0) : ∀ p ∈ (feedAll reg {} cs).1.sizes, p.2 ≤ 3 := by
  intro p hp
  have := retention_bounded reg cs p hp
  omega

/-- After the final callback at most 2 + foreign children remain (3 + foreign when parsing stopped
with an error at an element that is then still in the tree). -/
theorem final_retention_bounded (reg : Registry) (cs : List (List Item)) :
    (feedAll reg {} cs).1.children.length ≤ 3 + countForeign cs.flatten ∧
    ((feedAll reg {} cs).2 = none → (feedAll reg {} cs).1.children.length ≤ 2 + countForeign cs.flatten) := by
  rw [C06.feed_join]
  have r := run_inv reg cs.flatten {} 0 inv_init
  exact ⟨by have := r.2.1; omega, fun he => by have := (r.2.2 he).length_le; omega⟩

/-- The machine deletes the second child of the root only at an ontology element when `initialSeen`
holds, or at an accepted event, which needs an ontology. In both cases a processed child precedes the
element being processed: the premise of `C06.step_ignores_pending_input`. -/
theorem deletion_hits_processed_child (s : PState) (nf : Nat) (hI : Inv s nf)
    (h : s.initialSeen = true ∨ s.ont.isSome = true) : 1 ≤ s.children.length := by
  rcases h with h | h
  · exact hI.nonempty h
  · exact hI.nonempty (hI.ontSeen h)

example : Inv {} 0 := inv_init
example : (prun C06.exReg {} C06.exDoc).1.sizes = [(1, 2), (3, 4)] := by decide +kernel

end EdxmlProps.C19

/-! ### XML transcoder mediator: `_clean_after_transcode` -/

-- the namespace is closed and reopened so that `open Edxml` lapses: `XMed.MState`, `mstep`, `mrun` share
-- their names with Stream/Mediator.lean
namespace EdxmlProps.C19
open Edxml.XMed

def countOther (ks : List XKind) : Nat := (ks.filter (· == XKind.other)).length

theorem countOther_append (a b : List XKind) : countOther (a ++ b) = countOther a + countOther b := by
  simp [countOther, List.filter_append]

/-- The clean-up after a record whose parent holds the previous record at position `L.length`: that
record and the notes received since are gone. -/
theorem mstep_record {s : MState} {L T : List XKind} (hch : s.children = L ++ XKind.record :: T)
    (hlast : s.last = some L.length) :
    mstep s .record = { s with
      children := L ++ T.filter (· != XKind.note) ++ [XKind.record]
      last := some (L.length + (T.filter (· != XKind.note)).length)
      log := s.log ++ [(s.children.length, s.notesSince)]
      notesSince := 0 } := by
  have herase : (s.children ++ [XKind.record]).eraseIdx L.length = L ++ (T ++ [XKind.record]) := by
    rw [hch, List.append_assoc, List.eraseIdx_append_of_length_le (Nat.le_refl _), Nat.sub_self]; rfl
  have hlen : s.children.length - 1 = L.length + T.length := by
    rw [hch, List.length_append, List.length_cons]; rfl
  have hpost : (L ++ (T ++ [XKind.record])).drop (L.length + T.length) = [XKind.record] := by
    rw [← List.length_append, ← List.append_assoc, List.drop_left]
  simp only [mstep, hlast, herase, List.take_left, List.drop_left, hlen, Nat.add_sub_cancel_left, hpost]

/-- After at least one record the parent holds `L` (what the clean-ups so far have left), the last
transcoded record, and `T`, what was received since, of which the next clean-up keeps what is not a
note; `m` counts the children without any transcoder seen so far, `n` bounds what the first clean-up
left. -/
structure MInv (n m : Nat) (s : MState) : Prop where
  shape : ∃ L T, s.children = L ++ XKind.record :: T ∧ s.last = some L.length ∧
    L.length + (T.filter (· != XKind.note)).length ≤ n + m ∧
    T.length = s.notesSince + (T.filter (· != XKind.note)).length
  log : ∀ p ∈ s.log, p.1 ≤ n + 1 + m + p.2

theorem mstep_inv {n m : Nat} {s : MState} (k : XKind) (h : MInv n m s) :
    MInv n (m + countOther [k]) (mstep s k) := by
  obtain ⟨⟨L, T, hch, hlast, hcnt, hlen⟩, hlog⟩ := h
  cases k with
  | record =>
    rw [mstep_record hch hlast]
    refine ⟨⟨L ++ T.filter (· != XKind.note), [], rfl, congrArg some List.length_append.symm, ?_, rfl⟩,
      fun p hp => ?_⟩
    · rw [List.length_append]; exact hcnt
    · rcases List.mem_append.mp hp with hp | hp
      · exact hlog p hp
      · cases List.mem_singleton.mp hp
        show s.children.length ≤ n + 1 + m + s.notesSince
        rw [hch, List.length_append, List.length_cons, hlen]; omega
  | note =>
    refine ⟨⟨L, T ++ [.note], ?_, hlast, ?_, ?_⟩, hlog⟩
    · show s.children ++ [XKind.note] = _
      rw [hch, List.append_assoc]; rfl
    · rw [List.filter_append, List.length_append]; exact hcnt
    · show (T ++ [XKind.note]).length = s.notesSince + 1 + _
      rw [List.filter_append, List.length_append, List.length_append, hlen]; exact Nat.add_right_comm ..
  | other =>
    refine ⟨⟨L, T ++ [.other], ?_, hlast, ?_, ?_⟩,
      fun p hp => Nat.le_trans (hlog p hp) (Nat.add_le_add_right (Nat.le_succ _) _)⟩
    · show s.children ++ [XKind.other] = _
      rw [hch, List.append_assoc]; rfl
    · rw [List.filter_append, List.length_append]; exact Nat.succ_le_succ hcnt
    · show (T ++ [XKind.other]).length = s.notesSince + _
      rw [List.filter_append, List.length_append, List.length_append, hlen]; rfl

theorem mrun_inv {n : Nat} : ∀ (ks : List XKind) (m : Nat) (s : MState), MInv n m s → MInv n (m + countOther ks) (mrun s ks)
  | [], _, _, h => h
  | k :: ks, m, s, h => by
    rw [← List.singleton_append, countOther_append, ← Nat.add_assoc]
    exact mrun_inv ks _ _ (mstep_inv k h)

theorem mrun_no_record : ∀ (l : List XKind) (s : MState), (∀ x ∈ l, x ≠ XKind.record) →
    (mrun s l).children = s.children ++ l ∧ (mrun s l).last = s.last ∧ (mrun s l).log = s.log
  | [], s, _ => ⟨(List.append_nil _).symm, rfl, rfl⟩
  | x :: xs, s, h => by
    have ih := mrun_no_record xs (mstep s x) fun y hy => h y (List.mem_cons_of_mem _ hy)
    rw [List.append_cons]
    cases x with
    | record => exact absurd rfl (h _ List.mem_cons_self)
    | note => exact ih
    | other => exact ih

theorem mstep_first_record {s : MState} (hlast : s.last = none) :
    mstep s .record = { s with
      children := (if s.cross then s.children.filter (· != XKind.note) else s.children) ++ [XKind.record]
      last := some (if s.cross then s.children.filter (· != XKind.note) else s.children).length
      log := s.log ++ [(s.children.length, s.notesSince)]
      notesSince := 0 } := by
  cases hc : s.cross <;> simp only [mstep, hlast, hc] <;> rfl

/-- **Bounded retention in the XML transcoder mediator.** Let `lead` be the children received
before the first record of a parent element. Whatever follows, when a record is delivered its parent
holds at most `lead.length + 1 + (number of children without any transcoder) + (discardable children
received since the previous record)` earlier children: nothing that grows with the number of records. -/
theorem xmed_retention_bounded (cross : Bool) (lead rest : List XKind) (hl : ∀ x ∈ lead, x ≠ XKind.record) :
    ∀ p ∈ (mrun { cross := cross } (lead ++ XKind.record :: rest)).log,
      p.1 ≤ lead.length + 1 + countOther (lead ++ XKind.record :: rest) + p.2 := by
  obtain ⟨hch, hlast, hlog⟩ := mrun_no_record lead { cross := cross } hl
  rw [List.nil_append] at hch
  -- the first record: whatever its clean-up removes, at most `lead.length` children precede it
  have hfirst : MInv lead.length (countOther lead) (mstep (mrun { cross := cross } lead) XKind.record) := by
    rw [mstep_first_record hlast, hch, hlog]
    refine ⟨⟨_, [], rfl, rfl, Nat.le_add_right_of_le ?_, rfl⟩, fun p hp => ?_⟩
    · split
      · exact List.length_filter_le _ _
      · exact Nat.le_refl _
    · cases List.mem_singleton.mp hp
      exact Nat.le_add_right_of_le (Nat.le_add_right_of_le (Nat.le_succ _))
  have := mrun_inv rest _ _ hfirst
  rw [countOther_append]
  intro p hp
  rw [show mrun { cross := cross } (lead ++ XKind.record :: rest) =
      mrun (mstep (mrun { cross := cross } lead) XKind.record) rest by simp [mrun, List.foldl_append]] at hp
  exact this.log p hp

example : (mrun {} [.record, .note, .other, .record, .note, .other, .record]).log = [(0, 0), (3, 1), (4, 1)] := by
  decide

end EdxmlProps.C19
