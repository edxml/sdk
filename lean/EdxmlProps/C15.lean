/-
C15. Damaged input fails safely: what the parser state machine (model: `Stream/Parser.lean`, tied
to the code by the C14/C15 correspondence) guarantees about the callbacks that precede an error.
That parsing raises no exception outside the EDXML error family and does not hang is runtime
behaviour that no model exhibits: the check decides it by mutation fuzzing only.
-/
import EdxmlModel.Stream.Parser
import EdxmlProps.C14
namespace EdxmlProps.C15
open Edxml

/-- the events of the log all come from accepted event items -/
def LogOk (reg : Registry) (items : List Item) (log : List Callback) : Prop :=
  ∀ cb ∈ log, ∀ idx, deliveredEvent cb = some idx →
    ∃ t s g, Item.event idx t s g ∈ items ∧ (reg.validate = true → g = true)

theorem logOk_mono (reg : Registry) (a b : List Item) (log : List Callback) (h : LogOk reg a log) :
    LogOk reg (a ++ b) log := by
  intro cb hcb idx hd
  obtain ⟨t, s, g, hm, hg⟩ := h cb hcb idx hd
  exact ⟨t, s, g, List.mem_append_left _ hm, hg⟩

/-- what `C14.reprocess_err` says of the log: nothing that delivers an event is added -/
theorem reprocess_log (reg : Registry) : ∀ (n : Nat) (s : PState),
    ∀ cb ∈ (reprocess reg n s).log, cb ∈ s.log ∨ deliveredEvent cb = none := by
  intro n s cb h
  obtain ⟨extra, he, ho⟩ := (C14.reprocess_err reg n s).log
  rw [he] at h
  refine (List.mem_append.mp h).imp_right fun hx => ?_
  have := ho cb hx
  cases cb with
  | ontology ts ss => rfl
  | _ => cases this

theorem logOk_append {reg : Registry} {items : List Item} {a b : List Callback}
    (ha : LogOk reg items a) (hb : LogOk reg items b) : LogOk reg items (a ++ b) :=
  fun cb hcb => (List.mem_append.mp hcb).elim (ha cb) (hb cb)

theorem logOk_singleton {reg : Registry} {items : List Item} {cb : Callback} (h : deliveredEvent cb = none) :
    LogOk reg items [cb] := by
  intro cb' hcb idx hd
  cases List.mem_singleton.mp hcb
  rw [h] at hd
  cases hd

theorem pstep_logOk (reg : Registry) (pre : List Item) (s : PState) (it : Item) (h : LogOk reg pre s.log) :
    LogOk reg (pre ++ [it]) (pstep reg s it).1.log := by
  have hm := logOk_mono reg pre [it] s.log h
  rw [pstep_eq]
  cases hv : verdict reg.validate s.ont it with
  | some e => exact hm
  | none =>
    cases it with
    | foreign i => exact logOk_append hm (logOk_singleton rfl)
    | ont k ts ss => exact logOk_append hm (logOk_singleton rfl)
    | event i t src g =>
      obtain ⟨_, _, _, _, _, hg⟩ := verdict_event_eq_none.mp hv
      refine logOk_append hm fun cb hcb idx hd => ?_
      obtain rfl := dispatch_delivers reg _ i t src cb hcb idx hd
      exact ⟨t, src, g, List.mem_append_right _ (List.mem_singleton_self _), fun hv' => by simpa [hv'] using hg⟩

/-- C15: for every document and every point at which parsing ends (normally or with an error),
every event delivered to a handler is an event item the validation gate accepted. -/
theorem rejected_never_delivered (reg : Registry) : ∀ (items pre : List Item) (s : PState),
    LogOk reg pre s.log → LogOk reg (pre ++ items) (prun reg s items).1.log
  | [], pre, s, h => by rwa [List.append_nil]
  | it :: rest, pre, s, h => by
    have hs := pstep_logOk reg pre s it h
    rw [prun_cons, List.append_cons]
    cases verdict reg.validate s.ont it with
    | none => exact rejected_never_delivered reg rest _ _ hs
    | some _ => exact logOk_mono reg _ rest _ hs

theorem rejected_never_delivered_doc (reg : Registry) (items : List Item) :
    LogOk reg items (prun reg {} items).1.log := by
  have := rejected_never_delivered reg items [] {} (by intro cb hcb; cases hcb)
  simpa using this

/-- C15: processing stops at the first rejected element: what follows it has no influence on
what was delivered or on the error -/
theorem stops_at_first_error (reg : Registry) (a b : List Item) (s s' : PState) (e : PErr)
    (h : prun reg s a = (s', some e)) : prun reg s (a ++ b) = (s', some e) := by
  rw [prun_append, h]

theorem gate_rejection_raises (reg : Registry) (s : PState) (i : Nat) (t src : String) (ts ss : List String)
    (ho : s.ont = some (ts, ss)) (h1 : ss.contains src = true) (h2 : ts.contains t = true) (hv : reg.validate = true) :
    (pstep reg s (.event i t src false)).2 = some .eventValidation := by
  rw [pstep_snd, ho, hv]
  -- `h1` and `h2` are not needed: whichever check comes first, the error is the same
  exact (fun _ _ => verdict_gate_false _ i t src) h1 h2

/-- **C15: an ontology element that the gate rejects reaches no callback and leaves the parser's
ontology alone**: whatever the reason of the rejection (an incompatible definition, a schema
violation, with or without a definition that `Ontology.update` would have taken), the step raises the
ontology validation error -/
theorem rejected_ontology_not_delivered (reg : Registry) (s : PState) (v : OntV) (ts ss : List String) (hv : v ≠ .ok) :
    (pstep reg s (.ont v ts ss)).2 = some .ontologyValidation ∧
    (pstep reg s (.ont v ts ss)).1.log = s.log ∧ (pstep reg s (.ont v ts ss)).1.ont = s.ont := by
  cases v with
  | ok => exact absurd rfl hv
  | semFail => exact ⟨rfl, rfl, rfl⟩
  | schemaSemFail => exact ⟨rfl, rfl, rfl⟩
  | schemaSemOk => exact ⟨rfl, rfl, rfl⟩

example : (prun ⟨[("t", [1])], [], [], false, true⟩ {}
    [.ont .ok ["t"] ["/s/"], .event 0 "t" "/s/" true, .event 1 "t" "/s/" false, .event 2 "t" "/s/" true]).1.log =
    [.ontology ["t"] ["/s/"], .handler 1 0] := by decide +kernel

end EdxmlProps.C15
