/-
C05 — Merging is insensitive to arrival order, duplication and batching.

Proved field by field: for a field merged by a strategy (`C04.MergedBy`: the objects of a declared
property, or the parents) the laws of `mergeObjs` (Lemmas/MergeAlg) give equality, and `fields_eq`
turns equality of all such fields into the conclusions stated below.
-/
import EdxmlModel
import EdxmlProps.Lemmas.MergeAlg
import EdxmlProps.Lemmas.Stream
import EdxmlProps.C04
namespace EdxmlProps.C05
open Edxml EdxmlProps.C04

/-- When the merged objects of property `s` do not depend on the order of the instances:
`add` always; `match` because colliding instances agree on hashed properties; `min`/`max` when the
comparison key is injective on the objects present (Python keeps the *first* of two tied objects);
`replace` under an event version; `set` and `any` are order dependent by design. -/
def OrderFree (vp : Option String) (es : List Event) (s : PropSpec) : Prop :=
  match s.merge with
  | .add => True
  | .match_ => ∀ e ∈ es, ∀ e' ∈ es, e.objects s.name = e'.objects s.name
  | .min | .max => ∀ e ∈ es, ∀ e' ∈ es, ∀ a ∈ e.objects s.name, ∀ b ∈ e'.objects s.name,
      keyLe s.numeric a b = true → keyLe s.numeric b a = true → a = b
  | .replace => vp.isSome = true
  | .set | .any => False

theorem fields_eq (specs : List PropSpec) (hn : (specs.map (·.name)).Nodup) (r₁ r₂ : Event)
    (eq : ∀ {f st numeric}, MergedBy specs f st numeric → f r₁ = f r₂) :
    r₁.parents = r₂.parents ∧ ∀ s ∈ specs, r₁.objects s.name = r₂.objects s.name :=
  ⟨eq (parents_mergedBy specs), fun s hs => eq (objects_mergedBy specs hn s hs)⟩

theorem no_conflict_of_ok (specs : List PropSpec) (vp : Option String) (es : List Event) (r : Event)
    (h : mergeEvents specs vp es = .ok r) (v : String) (hv : vp = some v)
    (a : Event) (ha : a ∈ es) (b : Event) (hb : b ∈ es) (hab : versionInt v a = versionInt v b)
    (s : PropSpec) (hs : s ∈ specs) : a.objects s.name = b.objects s.name :=
  Classical.byContradiction fun hne =>
    nomatch h ▸ (conflict_iff specs vp es).mpr ⟨v, hv, a, ha, b, hb, hab, s, hs, hne⟩

section
variable (specs : List PropSpec) (vp : Option String) (es₁ es₂ : List Event)
  (hm : ∀ x, x ∈ es₁ ↔ x ∈ es₂) (r₁ r₂ : Event)
  (h₁ : mergeEvents specs vp es₁ = .ok r₁) (h₂ : mergeEvents specs vp es₂ = .ok r₂)

include hm h₁ h₂ in
theorem add_field_eq_of_same_members {f : Event → List String} {numeric : Bool}
    (F : MergedBy specs f .add numeric) : f r₁ = f r₂ := by
  rw [F vp es₁ r₁ h₁, F vp es₂ r₂ h₂, mergeObjs_add, mergeObjs_add, canonS_eq_iff]
  intro v
  simp only [mem_instances_flatten, hm]

include hm in
theorem pyMin_instances_congr (le : String → String → Bool) (hp : TotalPreorder le)
    (f : Event → List String)
    (anti : ∀ e ∈ es₁, ∀ e' ∈ es₁, ∀ a ∈ f e, ∀ b ∈ f e', le a b = true → le b a = true → a = b) :
    pyMin le ((versionOrder vp es₁).map f).flatten = pyMin le ((versionOrder vp es₂).map f).flatten := by
  refine pyMin_congr le hp (fun a => by simp only [mem_instances_flatten, hm]) fun a ha b hb => ?_
  obtain ⟨e, he, hae⟩ := (mem_instances_flatten vp es₁ f a).mp ha
  obtain ⟨e', he', hbe⟩ := (mem_instances_flatten vp es₁ f b).mp hb
  exact anti e he e' he' a hae b hbe

end

/-- Two lists of instances with the same members (a permutation, or one with repetitions) merge to
the same objects for every order-free property. -/
theorem merge_same_members (specs : List PropSpec) (hn : (specs.map (·.name)).Nodup)
    (vp : Option String) (es₁ es₂ : List Event) (hm : ∀ x, x ∈ es₁ ↔ x ∈ es₂)
    (r₁ r₂ : Event) (h₁ : mergeEvents specs vp es₁ = .ok r₁) (h₂ : mergeEvents specs vp es₂ = .ok r₂)
    (s : PropSpec) (hs : s ∈ specs) (hof : OrderFree vp es₁ s) :
    r₁.objects s.name = r₂.objects s.name := by
  have hmo₁ := merged_objects specs hn vp es₁ r₁ h₁ s hs
  have hmo₂ := merged_objects specs hn vp es₂ r₂ h₂ s hs
  unfold OrderFree at hof
  cases hmerge : s.merge with
  | match_ =>
    rw [hmerge] at hof
    obtain ⟨f₁, hf₁, _⟩ := merge_ok_first specs vp es₁ r₁ h₁
    rw [merge_match_unchanged specs hn vp es₁ r₁ h₁ s hs hmerge _ fun e he => hof e he f₁ hf₁,
      merge_match_unchanged specs hn vp es₂ r₂ h₂ s hs hmerge _ fun e he => hof e ((hm e).mpr he) f₁ hf₁]
  | add =>
    exact add_field_eq_of_same_members specs vp es₁ es₂ hm r₁ r₂ h₁ h₂
      (hmerge ▸ objects_mergedBy specs hn s hs)
  | replace =>
    -- the two highest-version instances have the same version, hence (no conflict) the same objects
    rw [hmerge] at hof
    obtain ⟨v, rfl⟩ := Option.isSome_iff_exists.mp hof
    obtain ⟨e₁, he₁, ho₁, hmax₁⟩ := merge_replace_highest_version specs hn _ es₁ r₁ h₁ v rfl s hs hmerge
    obtain ⟨e₂, he₂, ho₂, hmax₂⟩ := merge_replace_highest_version specs hn _ es₂ r₂ h₂ v rfl s hs hmerge
    have he₂' := (hm e₂).mpr he₂
    rw [ho₁, ho₂]
    exact no_conflict_of_ok specs _ es₁ r₁ h₁ v rfl e₁ he₁ e₂ he₂'
      (Int.le_antisymm (hmax₂ e₁ ((hm e₁).mp he₁)) (hmax₁ e₂ he₂')) s hs
  | min =>
    rw [hmerge] at hof
    rw [hmo₁, hmo₂, hmerge, mergeObjs_min, mergeObjs_min]
    exact congrArg Option.toList (pyMin_instances_congr vp es₁ es₂ hm _ (keyLe_preorder _) _ hof)
  | max =>
    rw [hmerge] at hof
    rw [hmo₁, hmo₂, hmerge, mergeObjs_max, mergeObjs_max]
    exact congrArg Option.toList (pyMin_instances_congr vp es₁ es₂ hm _ (keyLe_preorder _).flip _
      fun e he e' he' a ha b hb hab hba => hof e he e' he' a ha b hb hba hab)
  | set => rw [hmerge] at hof; exact hof.elim
  | any => rw [hmerge] at hof; exact hof.elim

theorem merged_eq_of_same_members (specs : List PropSpec) (hn : (specs.map (·.name)).Nodup)
    (vp : Option String) (es₁ es₂ : List Event) (hm : ∀ x, x ∈ es₁ ↔ x ∈ es₂)
    (r₁ r₂ : Event) (h₁ : mergeEvents specs vp es₁ = .ok r₁) (h₂ : mergeEvents specs vp es₂ = .ok r₂) :
    r₁.parents = r₂.parents ∧
    ∀ s ∈ specs, OrderFree vp es₁ s → r₁.objects s.name = r₂.objects s.name :=
  ⟨add_field_eq_of_same_members specs vp es₁ es₂ hm r₁ r₂ h₁ h₂ (parents_mergedBy specs),
    fun s hs hof => merge_same_members specs hn vp es₁ es₂ hm r₁ r₂ h₁ h₂ s hs hof⟩

/-- **Permutation invariance.** Every permutation of a group of colliding events merges to the same
objects (order-free strategies), the same parents, and reports a conflict for one order iff for all. -/
theorem merge_perm (specs : List PropSpec) (hn : (specs.map (·.name)).Nodup)
    (vp : Option String) (es₁ es₂ : List Event) (hp : es₁.Perm es₂) :
    (mergeEvents specs vp es₁ = .error .conflict ↔ mergeEvents specs vp es₂ = .error .conflict) ∧
    ∀ r₁ r₂, mergeEvents specs vp es₁ = .ok r₁ → mergeEvents specs vp es₂ = .ok r₂ →
      r₁.parents = r₂.parents ∧
      ∀ s ∈ specs, OrderFree vp es₁ s → r₁.objects s.name = r₂.objects s.name :=
  ⟨by simp only [conflict_iff, hp.mem_iff],
    merged_eq_of_same_members specs hn vp es₁ es₂ fun _ => hp.mem_iff⟩

/-- **Duplication.** Adding a copy of an instance changes nothing. -/
theorem merge_dup (specs : List PropSpec) (hn : (specs.map (·.name)).Nodup)
    (vp : Option String) (e : Event) (es : List Event) (r₁ r₂ : Event)
    (h₁ : mergeEvents specs vp (e :: es) = .ok r₁) (h₂ : mergeEvents specs vp (e :: e :: es) = .ok r₂) :
    r₁.parents = r₂.parents ∧
    ∀ s ∈ specs, OrderFree vp (e :: es) s → r₁.objects s.name = r₂.objects s.name :=
  merged_eq_of_same_members specs hn vp _ _ (fun x => by simp) r₁ r₂ h₁ h₂

/-- **Merging an event with a copy of itself returns an equal event** (the parents as a set; the
objects of a min/max property when it is single-valued in the event, as validity demands). -/
theorem merge_self (specs : List PropSpec) (hn : (specs.map (·.name)).Nodup)
    (vp : Option String) (e r : Event) (h : mergeEvents specs vp [e, e] = .ok r) :
    r.type = e.type ∧ r.source = e.source ∧ r.atts = e.atts ∧ r.foreign = e.foreign ∧
    r.parents = canonS e.parents ∧
    ∀ s ∈ specs, ((s.merge = .min ∨ s.merge = .max) → (e.objects s.name).length ≤ 1) →
      r.objects s.name = e.objects s.name := by
  obtain ⟨first, hf, ht, hs, ha, hfo⟩ := merge_ok_first specs vp [e, e] r h
  have hfe : first = e := by simpa using hf
  subst hfe
  refine ⟨ht, hs, ha, hfo, ?_, fun s hs hone => ?_⟩
  · refine (parents_mergedBy specs vp _ r h).trans
      (mergeObjs_add.trans ((canonS_eq_iff _ _).mpr fun x => ?_))
    rw [mem_instances_flatten]; simp
  · rw [merged_objects specs hn vp _ r h s hs]
    refine mergeObjs_const (instances_ne_nil specs vp _ r h _) (fun o ho => ?_) (objects_canon _ _) hone
    obtain ⟨e', he', rfl⟩ := (mem_instances vp _ _ o).mp ho
    rw [show e' = first by simpa using he']

section
variable {specs : List PropSpec} {f : Event → List String} {st : Strategy} {numeric : Bool}
  (F : MergedBy specs f st numeric)
include F

theorem mergedBy_assoc (pre xs post : List Event) (m r₁ r₂ : Event)
    (hm : mergeEvents specs none xs = .ok m)
    (h₁ : mergeEvents specs none (pre ++ m :: post) = .ok r₁)
    (h₂ : mergeEvents specs none (pre ++ xs ++ post) = .ok r₂) : f r₁ = f r₂ := by
  have hx : xs ≠ [] := by rintro rfl; cases hm
  rw [F none _ r₁ h₁, F none _ r₂ h₂]
  simp only [versionOrder, List.map_append, List.map_cons]
  rw [F none xs m hm]
  exact mergeObjs_middle st numeric _ _ _ (mt List.map_eq_nil_iff.mp hx)

theorem mergedBy_fold (ys : List Event) (e r : Event) (h : foldEvents specs none e ys = .ok r) :
    f r = groupObjs st numeric ((e :: ys).map f) := by
  fun_induction foldEvents specs none e ys with
  | case1 => cases h; rfl
  | case2 e y ys m hm ih =>
    rw [ih h, List.map_cons, F none [e, y] m hm]
    exact groupObjs_middle st numeric [] [f e, f y] _ (List.cons_ne_nil _ _)
  | case3 => cases h

theorem mergedBy_group (L : List Event) (r : Event) (h : mergeGroup specs none L = .ok r) :
    f r = groupObjs st numeric (L.map f) := by
  match L, h with
  | [], h => cases h
  | [e], h => cases h; rfl
  | a :: b :: t, h => exact F none _ r h

theorem mergedBy_foldGroup (L : List Event) (r : Event) (h : foldGroup specs none L = .ok r) :
    f r = groupObjs st numeric (L.map f) := by
  match L, h with
  | [], h => cases h
  | e :: ys, h => exact mergedBy_fold F ys e r h

end

/-- **Partial merges may be merged** (no version property): a run `xs` of the instances may be
replaced by its merge `m`. Folding events in one at a time and merging partial merges are instances
of this law. -/
theorem merge_assoc (specs : List PropSpec) (hn : (specs.map (·.name)).Nodup)
    (pre xs post : List Event) (m r₁ r₂ : Event)
    (hm : mergeEvents specs none xs = .ok m)
    (h₁ : mergeEvents specs none (pre ++ m :: post) = .ok r₁)
    (h₂ : mergeEvents specs none (pre ++ xs ++ post) = .ok r₂) :
    r₁.parents = r₂.parents ∧ ∀ s ∈ specs, r₁.objects s.name = r₂.objects s.name :=
  fields_eq specs hn r₁ r₂ fun F => mergedBy_assoc F pre xs post m r₁ r₂ hm h₁ h₂

/-- **One at a time = all at once** (no version property). -/
theorem merge_fold_eq_batch (specs : List PropSpec) (hn : (specs.map (·.name)).Nodup)
    (ys : List Event) (e y : Event) (r₁ r₂ : Event)
    (h₁ : foldEvents specs none e (y :: ys) = .ok r₁)
    (h₂ : mergeEvents specs none (e :: y :: ys) = .ok r₂) :
    r₁.parents = r₂.parents ∧ ∀ s ∈ specs, r₁.objects s.name = r₂.objects s.name :=
  fields_eq specs hn r₁ r₂ fun F => (mergedBy_fold F (y :: ys) e r₁ h₁).trans (F none _ r₂ h₂).symm

/-! ### Stream mergers (event types without a version property)

`key` is what events are bucketed by (the sticky hash). `KeyStable`, a hypothesis of the theorems on
the mergers, says that merging events of one bucket gives an event of that bucket.
`KeyStable (stickyKey specs) specs` is not proved, and fails for events whose source, type or objects
contain line feeds; `stickyKey_stable_on` below proves its conclusion for one bucket of well-formed
events (`C01.WF`). -/

def KeyStable (key : Event → Bytes) (specs : List PropSpec) : Prop :=
  ∀ (h : Bytes) (g : List Event) (r : Event), (∀ e ∈ g, key e = h) →
    mergeEvents specs none g = .ok r → key r = h

/-- The two events denote the same logical event content. -/
def SameLogical (specs : List PropSpec) (r₁ r₂ : Event) : Prop :=
  (∀ x, x ∈ r₁.parents ↔ x ∈ r₂.parents) ∧ ∀ s ∈ specs, r₁.objects s.name = r₂.objects s.name

theorem sameLogical_of_fields (specs : List PropSpec) (hn : (specs.map (·.name)).Nodup) (r₁ r₂ : Event)
    (eq : ∀ {f st numeric}, MergedBy specs f st numeric → f r₁ = f r₂) : SameLogical specs r₁ r₂ :=
  (fields_eq specs hn r₁ r₂ eq).imp_left fun hp x => by rw [hp]

/-- `KeyStable` is stated for `mergeEvents`; this is `C18.KeyStableV key specs none`, the same for
`mergeGroup` (and for any version property there). -/
theorem mergeGroup_key (key : Event → Bytes) (specs : List PropSpec) (hks : KeyStable key specs)
    (k : Bytes) (g : List Event) (r : Event) (hg : g ≠ []) (hall : ∀ e ∈ g, key e = k)
    (hr : mergeGroup specs none g = .ok r) : key r = k := by
  match g, hg, hr with
  | [e], _, hr => cases hr; exact hall _ List.mem_cons_self
  | a :: b :: t, _, hr => exact hks k _ r hall hr

theorem foldEvents_key (key : Event → Bytes) (specs : List PropSpec) (hks : KeyStable key specs)
    (k : Bytes) (ys : List Event) (e r : Event) (he : key e = k) (hys : ∀ y ∈ ys, key y = k)
    (hr : foldEvents specs none e ys = .ok r) : key r = k := by
  fun_induction foldEvents specs none e ys with
  | case1 => cases hr; exact he
  | case2 e y ys m hm ih =>
    have ⟨hy, hys⟩ := List.forall_mem_cons.mp hys
    exact ih (hks k [e, y] m (by simp [he, hy]) hm) hys hr
  | case3 => cases hr

theorem foldGroup_key (key : Event → Bytes) (specs : List PropSpec) (hks : KeyStable key specs)
    (k : Bytes) (g : List Event) (r : Event) (hg : g ≠ []) (hall : ∀ e ∈ g, key e = k)
    (hr : foldGroup specs none g = .ok r) : key r = k := by
  match g, hg with
  | e :: rest, _ =>
    have ⟨he, hrest⟩ := List.forall_mem_cons.mp hall
    exact foldEvents_key key specs hks k rest e r he hrest hr

/-- What cannot tell a run of a bucket from its merge (`hS`) cannot tell the output of the batches
from their input. -/
theorem batches_bucket (key : Event → Bytes) (specs : List PropSpec) (hks : KeyStable key specs)
    (k : Bytes) {σ : Type} (S : List Event → σ)
    (hS : ∀ pre g r post, g ≠ [] → mergeGroup specs none g = .ok r →
      S (pre ++ r :: post) = S (pre ++ g ++ post))
    (cs Rs : List (List Event))
    (hf : Forall2 (fun c R => resolveBy key specs none c = .ok R) cs Rs) (pre : List Event) :
    S (pre ++ groupOf key k Rs.flatten) = S (pre ++ groupOf key k cs.flatten) := by
  induction hf generalizing pre with
  | nil => rfl
  | @cons c R cs Rs hcR _ ih =>
    rw [List.flatten_cons, List.flatten_cons, groupOf_append, groupOf_append, ← List.append_assoc,
      ← List.append_assoc, ih]
    rcases perKey_bucket key _ (mergeGroup_key key specs hks) c R hcR k with ⟨hc, hR⟩ | ⟨hc, r, hr, hR⟩
    · rw [hc, hR]
    · rw [hR, List.append_assoc, List.singleton_append]
      exact hS pre _ r _ hc hr

/-- **Buffering stream merger.** For every buffer size `k`, every bucket of the output of
`BufferingEDXMLEventMerger` resolves to the same logical event as that bucket of the input: the
same buckets are present, and merging a bucket's output gives the same parents and objects as
merging its input at once. -/
theorem buffer_merger_resolve (key : Event → Bytes) (specs : List PropSpec)
    (hn : (specs.map (·.name)).Nodup) (hks : KeyStable key specs) (k : Nat) (es out : List Event)
    (hout : bufferMergerBy key specs none k es = .ok out) (h : Bytes) :
    (groupOf key h out = [] ↔ groupOf key h es = []) ∧
    ∀ r₁ r₂, mergeGroup specs none (groupOf key h out) = .ok r₁ →
      mergeGroup specs none (groupOf key h es) = .ok r₂ → SameLogical specs r₁ r₂ := by
  unfold bufferMergerBy at hout
  split at hout
  · rename_i Rs hRs
    cases hout
    have bucket := fun {σ} S hS =>
      chunksL_flatten k es ▸ batches_bucket key specs hks h (σ := σ) S hS _ Rs (mapE_ok hRs) []
    refine ⟨iff_of_eq (bucket (· = []) fun pre g r post hg _ => by simp [hg]),
      fun r₁ r₂ h₁ h₂ => sameLogical_of_fields specs hn r₁ r₂ fun {f st numeric} F => ?_⟩
    rw [mergedBy_group F _ r₁ h₁, mergedBy_group F _ r₂ h₂]
    refine bucket (fun g => groupObjs st numeric (g.map f)) fun pre g r post hg hr => ?_
    rw [List.map_append, List.map_cons, mergedBy_group F g r hr, List.map_append, List.map_append]
    exact groupObjs_middle st numeric _ _ _ (mt List.map_eq_nil_iff.mp hg)
  · cases hout

/-- **Unbuffered stream merger.** Every bucket of the output of `EDXMLEventMerger` holds exactly one
event, which denotes the same logical event as merging that bucket of the input at once. -/
theorem fold_merger_resolve (key : Event → Bytes) (specs : List PropSpec)
    (hn : (specs.map (·.name)).Nodup) (hks : KeyStable key specs) (es out : List Event)
    (hout : foldMergerBy key specs none es = .ok out) (h : Bytes) :
    (groupOf key h out = [] ↔ groupOf key h es = []) ∧
    ∀ r₂, mergeGroup specs none (groupOf key h es) = .ok r₂ →
      ∃ r₁, groupOf key h out = [r₁] ∧ SameLogical specs r₁ r₂ := by
  rcases perKey_bucket key _ (foldGroup_key key specs hks) es out hout h with
    ⟨hc, hR⟩ | ⟨hc, r, hr, hR⟩
  · refine ⟨by rw [hc, hR], fun r₂ h₂ => ?_⟩
    rw [hc] at h₂; cases h₂
  · refine ⟨iff_of_false (by rw [hR]; exact List.cons_ne_nil _ _) hc, fun r₂ h₂ => ⟨r, hR, ?_⟩⟩
    exact sameLogical_of_fields specs hn r r₂ fun F =>
      (mergedBy_foldGroup F _ r hr).trans (mergedBy_group F _ r₂ h₂).symm

/-- The sticky hash is a stable key on well-formed events: events with equal sticky hash agree on
type, source and hashed objects (`C01.hashInput_injective`), so their merge has the same hash input
(`C04.merge_hash_eq`, which holds for every version property; this is stated without one, as
`KeyStable` is). -/
theorem stickyKey_stable_on (specs : List PropSpec) (hn : (specs.map (·.name)).Nodup)
    (h : Bytes) (g : List Event) (r : Event) (hall : ∀ e ∈ g, stickyKey specs e = h)
    (hwf : ∀ e ∈ g, C01.WF (hashedNames specs) e)
    (hr : mergeEvents specs none g = .ok r) : stickyKey specs r = h := by
  obtain ⟨a, ha, _⟩ := merge_ok_first specs none g r hr
  have inj := fun e (he : e ∈ g) =>
    C01.hashInput_injective (hashedNames specs) e a (hwf e he) (hwf a ha)
      ((hall e he).trans (hall a ha).symm)
  have hobj : ∀ s ∈ specs, s.merge = .match_ → ∀ e ∈ g, e.objects s.name = a.objects s.name := by
    intro s hs hm e he
    have hp : (hashedNames specs).contains s.name = true := by
      simp only [hashedNames, List.contains_iff_mem, List.mem_map, List.mem_filter, beq_iff_eq]
      exact ⟨s, ⟨hs, hm⟩, rfl⟩
    exact objects_ext e a s.name fun v => (inj e he).2.2 s.name v hp
  rw [← hall a ha]
  exact merge_hash_eq specs hn none g r hr a.type a.source
    (fun e he => ⟨(inj e he).2.1, (inj e he).1⟩)
    (fun s hs hm e he e' he' => (hobj s hs hm e he).trans (hobj s hs hm e' he').symm) a ha

/-! ### Non-vacuity -/

example : OrderFree (some "v") [exE1, exE2] ⟨"h", .match_, false⟩ := by
  unfold OrderFree; simp only; decide +kernel
example : OrderFree (some "v") [exE1, exE2] ⟨"v", .max, true⟩ := by
  unfold OrderFree; simp only; decide +kernel

end EdxmlProps.C05
